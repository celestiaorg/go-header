/-
  C05 — the regenerated guard of GetRangeByHeight (kept apart from Props/C05.lean: the regenerated module brings Go's
  `Outcome` into scope, which that file's `Sess.Outcome` would clash with).
-/
import GoHeader.Gen.P2P
namespace GoHeader.C05
open GoHeader

/-- Tie T (regenerated `Gen.rangeDegenerate` = the condition of the first `if` of `Exchange.GetRangeByHeight`, in Go's
    wrapping uint64 arithmetic): the guard refuses a request exactly when `to ≤ from.Height()+1` holds over the NATURAL
    numbers - for every pair of 64-bit values, including `from.Height() = 2^64-1`, where `from.Height()+1` wraps to 0
    ("degenerate requests yield an error rather than a panic or a hang"). -/
theorem c05_tie_degenerate (f t : UInt64) : Gen.rangeDegenerate f t = decide (t.toNat ≤ f.toNat + 1) := by
  unfold Gen.rangeDegenerate
  by_cases h : t ≤ f
  · rw [decide_eq_true h, Bool.true_or, eq_comm, decide_eq_true_eq]
    exact Nat.le_succ_of_le (UInt64.le_iff_toNat_le.mp h)
  · -- `f < t`: the subtraction does not wrap
    have hlt := UInt64.not_le.mp h
    rw [decide_eq_false h, Bool.false_or]
    refine decide_eq_decide.mpr ?_
    rw [UInt64.le_iff_toNat_le, UInt64.toNat_sub_of_le t f (UInt64.le_of_lt hlt)]
    exact Nat.sub_le_iff_le_add'

/-- the comparison it replaced (`to ≤ from.Height()+1` in wrapping arithmetic) lets every `to` pass at the top of uint64 (F37) -/
example : decide ((5 : UInt64) ≤ (18446744073709551615 : UInt64) + 1) = false := by decide

end GoHeader.C05
