/-
  C19 — Syncer.Head is fresh, monotone and never adopts an expired header.
-/
import GoHeader.Sync.Head
import GoHeader.Sync.TailInit
import GoHeader.Gen.Sync
namespace GoHeader.C19
open GoHeader GoHeader.SHead

/-- concurrent callers on an EMPTY store (`Sync.TailInit`): they share the head request; as long as no fetch of the first
    tail header fails, no caller fails, however their arrivals interleave with the fetch (the F35 repair: wait, do not skip) -/
theorem c19_concurrent_init_all_ok (evs : List TailInit.Ev) (he : ∀ e ∈ evs, e ≠ .finish false) :
    TailInit.AllOk (TailInit.run true {} evs) :=
  TailInit.run_allok evs {} (by intro p hp; cases hp) he

/-- before the repair the second caller found the store still empty and failed -/
theorem c19_concurrent_init_before_repair :
    (TailInit.run false {} [.arrive 0, .arrive 1, .finish true]).results = [(1, false), (0, true)] := by decide

/-- Tier A ties: the expiry / recency predicates regenerated from syncer_head.go are the model's -/
theorem c19_tie_isExpired : Gen.isExpired = isExpired := rfl
theorem c19_tie_isRecent : Gen.isRecent = isRecent := rfl

/-- A call on a subjective head that is not expired: what it returns is also the new subjective head and is not
    below the old one; a recent head is returned as it is, without network traffic; a stale one costs one head
    request carrying it as TrustedHead, and the peers' head is adopted if it is accepted and higher. -/
theorem headCall_live {c : Cfg} {now : Int} {s : H} (a1 a2 : PeerAns) (hne : expired c now s = false) :
    ∃ r, s.height ≤ r.height ∧ (recent c now s = true → r = s) ∧ headCall c now (some s) a1 a2 =
      { result := some r, subj := some r, reqs := if recent c now s then [] else [.trusted s.height] } := by
  unfold headCall
  rw [show needInit c now (some s) = false from hne, if_neg Bool.false_ne_true]
  dsimp only
  cases recent c now s
  case true => exact ⟨s, Nat.le_refl _, fun _ => rfl, rfl⟩
  -- `.soft h false` is treated like `.fail`, `.soft h true` like `.ok h`
  rcases a2 with _ | h | ⟨h, _ | _⟩
  case' ok | soft.true =>
    exact if hle : h.height ≤ s.height then ⟨s, Nat.le_refl _, nofun, if_pos hle⟩
      else ⟨h, Nat.le_of_lt (Nat.not_le.mp hle), nofun, if_neg hle⟩
  all_goals exact ⟨s, Nat.le_refl _, nofun, rfl⟩

/-- a recent (and not expired) subjective head is returned without any network traffic -/
theorem c19_recent_no_request (c : Cfg) (now : Int) (s : H) (a1 a2 : PeerAns)
    (hne : expired c now s = false) (hr : recent c now s = true) :
    headCall c now (some s) a1 a2 = { result := some s, subj := some s, reqs := [] } := by
  obtain ⟨r, _, hs, h⟩ := headCall_live a1 a2 hne
  rw [h, hs hr, if_pos hr]

/-- a stale (not expired) one triggers exactly one head request, carrying the subjective head as TrustedHead -/
theorem c19_stale_one_request (c : Cfg) (now : Int) (s : H) (a1 a2 : PeerAns)
    (hne : expired c now s = false) (hr : recent c now s = false) :
    (headCall c now (some s) a1 a2).reqs = [.trusted s.height] := by
  obtain ⟨r, _, _, h⟩ := headCall_live a1 a2 hne
  rw [h, hr]; rfl

/-- no downgrade: with a non-expired subjective head the result and the new subjective head are
    never below it — the heights returned by successive calls never decrease -/
theorem c19_monotone (c : Cfg) (now : Int) (s : H) (a1 a2 : PeerAns) (hne : expired c now s = false) :
    ∃ r, (headCall c now (some s) a1 a2).result = some r ∧ s.height ≤ r.height ∧
      (headCall c now (some s) a1 a2).subj = some r := by
  obtain ⟨r, hle, _, h⟩ := headCall_live a1 a2 hne
  rw [h]; exact ⟨r, rfl, hle, rfl⟩

/-- (re)initialisation — empty store or expired stored head — adopts only a head from trusted peers
    that is itself not expired, and otherwise fails with an error and leaves the subjective head alone.  In
    particular the expired stored head is never handed out as a result (F29 repair). -/
theorem c19_init_not_expired (c : Cfg) (now : Int) (subj : Option H) (a1 a2 : PeerAns)
    (hinit : subj = none ∨ ∃ s, subj = some s ∧ expired c now s = true) :
    let o := headCall c now subj a1 a2
    o.reqs = [.init] ∧
    (∀ r, o.result = some r → a1 = .ok r ∧ expired c now r = false ∧ o.subj = some r) ∧
    (o.result = none → o.subj = subj) := by
  have hneed : needInit c now subj = true := by
    rcases hinit with rfl | ⟨s, rfl, hs⟩
    · rfl
    · exact hs
  fun_cases headCall c now subj a1 a2
  -- the one branch that adopts the peers' head `h`: not expired and accepted
  case case2 h he _ _ _ => exact ⟨rfl, fun r hr => by cases hr; exact ⟨rfl, Bool.eq_false_iff.mpr he, rfl⟩, nofun⟩
  -- the other four of the (re)initialisation fail and leave the subjective head alone
  case case1 | case3 | case4 | case5 => exact ⟨rfl, nofun, fun _ => rfl⟩
  all_goals exact absurd hneed ‹_›

/-- an expired header is never adopted on (re)initialisation -/
theorem c19_never_adopts_expired (c : Cfg) (now : Int) (a2 : PeerAns) (h : H) (he : expired c now h = true) :
    (headCall c now none (.ok h) a2).result = none ∧ (headCall c now none (.ok h) a2).subj = none := by
  unfold headCall
  rw [if_pos (show needInit c now none = true from rfl)]
  dsimp only
  rw [if_pos he]
  exact ⟨rfl, rfl⟩

/-- single flight: while a head request is in flight, further callers do not start another one … -/
theorem c19_singleflight_requests (s : SF) (c l : Nat) (h : s.inflight = some l) :
    (s.step (.enter c)).requests = s.requests ∧ (s.step (.enter c)).inflight = some l := by
  simp [SF.step, h]

/-- … and all of them return the result of that single request -/
theorem c19_singleflight_shared (s : SF) (l a : Nat) (h : s.inflight = some l) :
    ∀ w ∈ s.waiting, (w, a) ∈ (s.step (.finish a)).results := by
  intro w hw
  simp only [SF.step, h, List.mem_append, List.mem_cons, List.mem_map]
  right; right; exact ⟨w, hw, rfl⟩

example : (SF.run [.enter 1, .enter 2, .enter 3, .finish 7, .enter 4, .finish 9]).requests = 2 := by decide
example : (SF.run [.enter 1, .enter 2, .enter 3, .finish 7]).results = [(1, 7), (2, 7), (3, 7)] := by decide
example : (headCall ⟨3600, 10, 30⟩ 1000 (some ⟨20, 900⟩) .fail (.ok ⟨25, 990⟩)).result = some ⟨25, 990⟩ := by decide
example : (headCall ⟨3600, 10, 30⟩ 10000 (some ⟨20, 900⟩) (.ok ⟨25, 990⟩) .fail).result = none := by decide

/-- **C19 monotone, concurrent form**: whatever the trusted peers answer to a request that was in flight while the
    subjective head advanced from `s0` to `s1`, the caller is handed at least `s1` — i.e. at least what any other
    caller may already have been given in the meantime (fixed by the F22 repair; before it the snapshot `s0` was
    returned on failure). -/
theorem c19_monotone_inflight (s0 s1 : H) (ans : PeerAns) (h01 : s0.height ≤ s1.height) :
    s1.height ≤ (headCallInflight s0 s1 ans).height := by
  fun_cases headCallInflight s0 s1 ans
  -- the peers' head is returned only when it is above `s1`
  case case3 | case6 => exact Nat.le_of_lt ‹_›
  case case4 | case7 => exact Nat.le_refl _
  -- `latest` is `s1`, or `s0` when that is at least as high
  all_goals exact iteInduction (motive := fun x : H => s1.height ≤ x.height) (fun _ => Nat.le_refl _) Nat.not_lt.mp

example : (headCallInflight ⟨20, 0⟩ ⟨60, 5⟩ .fail).height = 60 := by decide
example : (headCallInflight ⟨20, 0⟩ ⟨60, 5⟩ (.ok ⟨40, 3⟩)).height = 60 := by decide

end GoHeader.C19
