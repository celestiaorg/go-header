/-
  C07 (and the crash-freedom of C03) — the Syncer's pending set, `sync/ranges.go` (model: GoHeader.Sync.Ranges).

  "heads learned while a sync is running, including ones that leave gaps in the pending set, are synced as well …
   nothing partial is lost": what the sync loop takes out of the pending set is exactly what it stored, whatever
  `Add` calls run between its `First`/`Get` and its `Remove`, and no slice expression of `Get`/`Remove` leaves its slice.
-/
import GoHeader.Lemmas.Ranges
import GoHeader.Gen.Sync
import GoHeader.Sync.Subjective
namespace GoHeader.C07Ranges
open GoHeader GoHeader.Ranges

theorem toNat_add_of_lt {a b : UInt64} (h : a.toNat + b.toNat < 2 ^ 64) : (a + b).toNat = a.toNat + b.toNat := by
  rw [UInt64.toNat_add]; exact Nat.mod_eq_of_lt h

/-- Tie T: the regenerated `rangeAmount` (Go's wrapping uint64 arithmetic) is the model's `amt` over the naturals, for
    every range that does not end at the very top of uint64 -/
theorem c07_tie_rangeAmount (s len e : UInt64) (h : s.toNat + len.toNat + 1 < 2 ^ 64) :
    (Gen.rangeAmount s len e).toNat = amt s.toNat len.toNat e.toNat := by
  have hlt := Nat.lt_of_succ_lt h
  simp only [Gen.rangeAmount, amt, gt_iff_lt, UInt64.lt_iff_toNat_lt, decide_eq_true_eq, toNat_add_of_lt hlt]
  by_cases h1 : e.toNat < s.toNat
  · rw [if_pos h1, if_pos h1]; rfl
  · rw [if_neg h1, if_neg h1]
    by_cases h2 : e.toNat < s.toNat + len.toNat
    · have hsub := UInt64.toNat_sub_of_le e s (UInt64.le_iff_toNat_le.2 (Nat.le_of_not_lt h1))
      -- `e - s + 1` does not wrap: `e - s ≤ e < s + len < 2 ^ 64`
      rw [if_pos h2, if_pos h2, toNat_add_of_lt (hsub ▸ Nat.lt_of_le_of_lt (Nat.lt_of_le_of_lt (Nat.sub_le ..) h2) hlt), hsub]; rfl
    · rw [if_neg h2, if_neg h2]

/-- no call of `Get` or `Remove`, on ANY range and for ANY end, slices beyond the length of the cached headers -/
theorem c07_ranges_never_slice_out_of_range (r : Rng) (e : Nat) : sliceOk (rangeAmount r e) r = true :=
  decide_eq_true (amt_le ..)

/-- … which was not so before the repair of F41: the head right below the finished target, alone in the pending set -/
theorem c07_old_rangeAmount_overshoots : sliceOk (rangeAmountOld ⟨23, [23]⟩ 24) ⟨23, [23]⟩ = false := by decide

/-- `Get(to)` of a well-formed range hands out exactly its headers up to `to`, `Remove(to)` leaves exactly the ones above,
    and the range stays well-formed -/
theorem c07_get_remove_split (r : Rng) (to : Nat) (h : r.WF) :
    get r to = r.hs.filter (· ≤ to) ∧ (remove r to).hs = r.hs.filter (· > to) ∧ (remove r to).WF :=
  ⟨get_spec to h, remove_spec to h, remove_wf to h⟩

/-- after `Remove(to)` the next `Get(to)` of that range is empty: the loop moves on or stops -/
theorem c07_after_remove_nothing_left (r : Rng) (to : Nat) (h : r.WF) : get (remove r to) to = [] := get_remove_nil to h

/-- the invariant (ranges well-formed, ascending, never adjacent, emptied ranges only at the front) holds after EVERY
    sequence of Add / First / Remove-on-the-first-range / Prune calls -/
theorem c07_ranges_inv_run (ops : List Op) : Ranges.Inv (run [] ops) :=
  List.foldlRecOn ops step inv_nil fun _ hi op _ => step_inv op hi

/-- after every sequence of operations the cached heights are strictly ascending (no duplicates, no reordering): what the loop
    hands to the Store is in chain order -/
theorem c07_pending_strictly_ascending (ops : List Op) : (heights (run [] ops)).Pairwise (· < ·) :=
  heights_sorted (c07_ranges_inv_run ops)

/-- the pending set is an ascending log of heads: `Add` records a head iff it is above everything cached -/
theorem c07_add_records_new_heads (rs : Ranges) (h : Nat) (hi : Ranges.Inv rs) :
    heights (add rs h) = if (heights rs).all (· < h) then heights rs ++ [h] else heights rs := by
  obtain ⟨plan, e, hs⟩ := add_spec hi h
  rw [e, heights_addApply]
  cases plan with
  | drop =>
    obtain ⟨x, hx, hle⟩ := hs
    rw [if_pos rfl, if_neg fun hall => Nat.not_lt.2 hle (of_decide_eq_true (List.all_eq_true.1 hall x hx))]
  | append => rw [if_neg nofun, if_pos (List.all_eq_true.2 fun x hx => decide_eq_true (hs.2 x hx))]
  | fresh => rw [if_neg nofun, if_pos (List.all_eq_true.2 fun x hx => decide_eq_true (Nat.lt_of_succ_lt (hs x hx)))]

/-- refinement: on the cached heights, `ranges.Add` IS the `addH` of the abstract log that `Sync.Subjective` (C19) works with … -/
theorem c07_pending_refines_log_add (rs : Ranges) (h : Nat) (hi : Ranges.Inv rs) :
    heights (add rs h) = Subjective.addH (heights rs) h := c07_add_records_new_heads rs h hi

/-- … and `ranges.Prune(e)` is its `filter (· > e)` -/
theorem c07_pending_refines_log_prune : ∀ (rs : Ranges) (e : Nat), Ranges.Inv rs → heights (prune rs e) = (heights rs).filter (· > e) :=
  fun _ e hi => heights_prune e hi.wf

/-- heads learned while the loop is between its `Get(to)` and its `Remove(to)`, in ANY number: the first range still yields the
    same headers for `to` (so `Remove` drops exactly what was stored), provided something at or above `to` is cached -/
theorem adds_keep_first_get (adds : List Nat) {r : Rng} {rest : Ranges} {to : Nat} (hi : Ranges.Inv (r :: rest))
    (hto : ∃ x ∈ heights (r :: rest), to ≤ x) :
    ∃ r' rest', adds.foldl add (r :: rest) = r' :: rest' ∧ get r' to = get r to ∧ Ranges.Inv (r' :: rest') := by
  induction adds generalizing r rest with
  | nil => exact ⟨r, rest, rfl, rfl, hi⟩
  | cons h adds ih =>
    obtain ⟨r1, rest1, e, hg⟩ := get_add_first h hi hto
    obtain ⟨x, hx, hle⟩ := hto
    have hx1 : x ∈ heights (add (r :: rest) h) := by
      rw [c07_add_records_new_heads _ h hi]; split
      · exact List.mem_append_left _ hx
      · exact hx
    obtain ⟨r2, rest2, e2, hg2, hi2⟩ := ih (e ▸ add_inv h hi) ⟨x, e ▸ hx1, hle⟩
    exact ⟨r2, rest2, by rw [List.foldl_cons, e, e2], hg2.trans hg, hi2⟩

/-- … as it is when `to` is a cached head - which the sync target always is -/
theorem c07_adds_keep_first_get (adds : List Nat) : ∀ (r : Rng) (rest : Ranges) (to : Nat), Ranges.Inv (r :: rest) → r.hs ≠ [] →
    to ∈ heights (r :: rest) →
    ∃ r' rest', adds.foldl add (r :: rest) = r' :: rest' ∧ get r' to = get r to ∧ Ranges.Inv (r' :: rest') :=
  fun _ _ to hi _ hto => adds_keep_first_get adds hi ⟨to, hto, Nat.le_refl to⟩

/-- the hypothesis is needed: with a target that is NOT cached, a head learned in between is dropped without being stored -/
theorem c07_uncached_target_counterexample :
    get ⟨10, [10]⟩ 12 = [10] ∧ (remove ((add [⟨10, [10]⟩] 11).head!) 12).hs = [] := by decide

/-- `Add(h)` is NOT atomic with respect to the loop: it reads the head of the last range, the loop's `Remove(e)` may run,
    then `Add` applies what it decided. The invariant survives that interleaving (after the F42 repair) - for every pending
    set, every head and every `e` -/
theorem c07_add_racing_remove_keeps_inv (rs : Ranges) (h e : Nat) (hi : Ranges.Inv rs) :
    Ranges.Inv (addApply true (removeFirst rs e) (addRead rs h) h) :=
  addApply_inv h (removeFirst_inv e hi) (headOf_removeFirst rs e)

/-- without a `Remove` in between, the two halves are `Add` -/
theorem c07_add_split_is_add (rs : Ranges) (h : Nat) : addApply true rs (addRead rs h) h = add rs h := addApply_addRead rs h

/-- before the repair of F42 the range kept its stale start: `Get(11)` handed out header 12, and with head 13 learned before
    the `Remove(11)`, 13 was dropped from the pending set without ever having been handed out -/
theorem c07_add_racing_remove_before_repair :
    let rs1 := addApply false (removeFirst [⟨10, [10, 11]⟩] 11) (addRead [⟨10, [10, 11]⟩] 12) 12
    rs1 = [⟨10, [12]⟩] ∧ get rs1.head! 11 = [12] ∧ heights (removeFirst (add rs1 13) 11) = [] := by decide

/-- … and after it: nothing is handed out for 11, and both heads are still cached after the `Remove(11)` -/
theorem c07_add_racing_remove_repaired :
    let rs1 := addApply true (removeFirst [⟨10, [10, 11]⟩] 11) (addRead [⟨10, [10, 11]⟩] 12) 12
    rs1 = [⟨12, [12]⟩] ∧ get rs1.head! 11 = [] ∧ heights (removeFirst (add rs1 13) 11) = [12, 13] := by decide

/-- the cache loop of `processHeaders(…, to)` - `First()`, `Get(to)`, store, `Remove(to)`, again - over ANY pending set that satisfies
    the invariant: it hands to the Store exactly the cached heads up to `to`, in order, each once, leaves exactly the ones above `to`,
    and terminates within one iteration per range (+1) -/
theorem c07_cache_loop_exact (rs : Ranges) (to : Nat) (hi : Ranges.Inv rs) :
    (drain rs.length rs to).1 = (heights rs).filter (· ≤ to) ∧
    heights (drain rs.length rs to).2 = (heights rs).filter (· > to) ∧ Ranges.Inv (drain rs.length rs to).2 :=
  have ⟨e, hle, hgt, hi'⟩ := drain_spec to rs.length hi (.inl (clean_length_le rs))
  ⟨(filter_of_cut e hle hgt).1, (filter_of_cut e hle hgt).2, hi'⟩

/-- … in particular after every sequence of Add / First / Remove / Prune calls -/
theorem c07_cache_loop_exact_reachable (ops : List Op) (to : Nat) :
    let rs := run [] ops
    (drain rs.length rs to).1 = (heights rs).filter (· ≤ to) ∧ heights (drain rs.length rs to).2 = (heights rs).filter (· > to) := by
  intro rs
  have := c07_cache_loop_exact rs to (c07_ranges_inv_run ops)
  exact ⟨this.1, this.2.1⟩

example : drain 3 (run [] [.add 10, .add 11, .add 20, .add 21, .add 30]) 20 = ([10, 11, 20], [⟨21, [21]⟩, ⟨30, [30]⟩]) := by decide

/-- non-vacuity: a reachable pending set with two ranges, a gap and a cached target -/
example : Ranges.Inv (run [] [.add 10, .add 11, .add 20, .first]) ∧ (20 ∈ heights (run [] [.add 10, .add 11, .add 20, .first])) ∧
    get ((run [] [.add 10, .add 11, .add 20, .first]).head!) 20 = [10, 11] :=
  ⟨c07_ranges_inv_run _, by decide, by decide⟩

end GoHeader.C07Ranges
