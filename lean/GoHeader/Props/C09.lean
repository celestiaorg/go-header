/-
  C09 — Exchange.Head returns the quorum/highest head and honours the trusted head.
-/
import GoHeader.P2P.Head
import GoHeader.Gen.P2P
namespace GoHeader.C09
open GoHeader GoHeader.P2P

/-- Tier A: the quorum rule regenerated from exchange.go is the model's -/
theorem c09_tie_minHeadResponses : Gen.minHeadResponses = minHeadResponses := by
  funext n; unfold Gen.minHeadResponses minHeadResponses; simp

/-- quorum arithmetic for EVERY peer count: all of them for one or two peers, otherwise the least
    count that is at least two thirds -/
theorem c09_quorum_arith (n : Nat) :
    (n ≤ 2 → minHeadResponses n = n) ∧
    (3 ≤ n → 3 * minHeadResponses n ≥ 2 * n ∧ 3 * (minHeadResponses n - 1) < 2 * n ∧ minHeadResponses n ≤ n) := by
  unfold minHeadResponses
  exact ⟨fun h => if_pos h, fun h => by rw [if_neg (Nat.not_le.mpr h)]; omega⟩

/-- `highest` finds nothing only in the empty list, and otherwise a member that no member exceeds -/
theorem highest_spec (l : List (Nat × Nat × Bool)) :
    match highest l with
    | none => l = []
    | some x => x ∈ l ∧ ∀ y ∈ l, y.2.1 ≤ x.2.1 := by
  fun_induction highest l with
  | case1 => rfl
  | case2 a as h ih =>  -- nothing in the rest: the rest is empty
    rw [h] at ih; cases ih
    exact ⟨.head _, List.forall_mem_cons.mpr ⟨Nat.le_refl _, nofun⟩⟩
  | case3 a as z h hgt ih =>  -- the highest of the rest stays
    rw [h] at ih
    exact ⟨.tail _ ih.1, List.forall_mem_cons.mpr ⟨Nat.le_of_lt hgt, ih.2⟩⟩
  | case4 a as z h hgt ih =>  -- the new element is at least as high
    rw [h] at ih
    exact ⟨.head _, List.forall_mem_cons.mpr ⟨Nat.le_refl _, fun y hy => Nat.le_trans (ih.2 y hy) (Nat.not_lt.mp hgt)⟩⟩

/-- every header `collect` returns was reported by some peer, with that soft flag -/
theorem collect_found_mem (n : Nat) (as : List Ans) (acc : List (Nat × Nat × Bool)) (got id h : Nat) (s : Bool)
    (hr : collect n as acc got = .found id h s) : (id, h, s) ∈ acc ∨ Ans.hdr id h s ∈ as := by
  fun_induction collect n as acc got with
  | case1 | case2 => cases hr  -- answers exhausted: context error, or nothing collected
  | case3 acc got _ id' h' s' hh => cases hr; exact .inl (hh ▸ highest_spec acc).1
  | case4 rest acc got ih => exact (ih hr).imp_right (.tail _)
  | case5 id' h' s' rest acc got _ hq => cases hr; exact .inr (.head _)
  | case6 id' h' s' rest acc got _ hq ih =>
    rcases ih hr with h1 | h1
    · rcases List.mem_append.mp h1 with h1 | h1
      · exact .inl h1
      · cases List.mem_singleton.mp h1; exact .inr (.head _)
    · exact .inr (.tail _ h1)

/-- With WithTrustedHead: a returned header never failed verification hard; nil error ⇒ it passed
    Verify against the trusted head; otherwise it is paired with its own soft failure.  Without it
    the header is simply one that a peer reported. -/
theorem c09_trusted (useTracked : Bool) (n : Nat) (arrival : List PeerResp) (id h : Nat) (s : Bool)
    (hr : head useTracked n arrival = .found id h s) :
    ∃ v, PeerResp.head id h v ∈ arrival ∧
      (useTracked = true → (v ≠ .hard ∧ (s = false → v = .ok) ∧ (s = true → v = .soft))) ∧
      (useTracked = false → s = false) := by
  rcases collect_found_mem n _ [] 0 id h s hr with h1 | h1
  · cases h1
  · -- the peer whose answer became this header, and what `classify` made of its verdict
    obtain ⟨r, hr1, hc⟩ := List.mem_filterMap.mp h1
    rcases r with _ | ⟨id', h', v⟩ | _
    case head => cases useTracked <;> cases v <;> cases hc <;> exact ⟨_, hr1, by decide, by decide⟩
    all_goals cases hc

/-- answers without a header never produce one: once everybody has answered the result is ErrNotFound -/
theorem collect_zeros (n : Nat) : ∀ (as : List Ans) (got : Nat), (∀ a ∈ as, a = .zero) → n ≤ got + as.length →
    collect n as [] got = .notFound
  | [], got, _, hl => by unfold collect; rw [if_neg (show ¬ got < n from Nat.not_lt.mpr hl)]; rfl
  | a :: rest, got, ha, hl => by
    cases ha a (.head _)
    exact collect_zeros n rest (got + 1) (fun x hx => ha x (.tail _ hx))
      (by rw [Nat.add_assoc, Nat.add_comm 1]; exact hl)

/-- nobody supplied a usable header ⇒ ErrNotFound with a zero header (when everybody answered) -/
theorem c09_none (n : Nat) (as : List Ans) (hall : ∀ a ∈ as, a = .zero) (hlen : as.length = n) :
    collect n as [] 0 = .notFound :=
  collect_zeros n as 0 hall (by rw [hlen, Nat.zero_add]; exact Nat.le_refl n)

/-- the quorum header is returned as soon as it exists: at the arrival that brings some hash to
    `minHeadResponses n` reports, without waiting for the remaining answers -/
theorem c09_first_quorum (n : Nat) (pre : List Ans) (acc : List (Nat × Nat × Bool)) (got id h : Nat) (s : Bool)
    (rest : List Ans)
    (hq : countId (acc ++ [(id, h, s)]) id ≥ minHeadResponses n) :
    collect n (.hdr id h s :: rest) acc got = .found id h s := by
  unfold collect; exact if_pos hq

/-- no quorum and everybody answered ⇒ the highest reported header -/
theorem c09_fallback_highest (n : Nat) (acc : List (Nat × Nat × Bool)) (id h : Nat) (s : Bool)
    (hr : collect n [] acc n = .found id h s) : ∀ y ∈ acc, y.2.1 ≤ h := by
  unfold collect at hr
  rw [if_neg (Nat.lt_irrefl n)] at hr
  have hs := highest_spec acc
  generalize highest acc = o at hr hs
  rcases o with _ | ⟨a, b, c⟩ <;> cases hr
  exact hs.2

example : head false 3 [.head 7 10 .ok, .head 8 12 .ok, .head 7 10 .ok] = .found 7 10 false := by decide
example : head false 3 [.head 7 10 .ok, .fail, .head 8 12 .ok] = .found 8 12 false := by decide
example : head true 2 [.head 7 10 .soft, .head 7 10 .soft] = .found 7 10 true := by decide
example : head true 2 [.head 7 10 .hard, .fail] = .notFound := by decide
example : head false 3 [.head 7 10 .ok, .hang, .head 8 12 .ok] = .ctxErr := by decide

end GoHeader.C09
