/-
  C03 — Syncer only ever stores one contiguous chain of verified headers.
  Model: `Sync.Machine`: the Store is the run 1..head of genuine headers BY CONSTRUCTION of the state
  (a natural number); what the theorems show is that no event of the model — any gossip kind, any
  getter misbehaviour — can make it store something else or move past what was verified:
  contract-violating getter output never advances the head, refused gossip never becomes the target,
  the head never exceeds the newest verified head.
  NOT covered here: interleavings of the gossip handler with the sync loop (the syncStore adjacency
  guard under races) — exercised only sequentially by the harness.
-/
import GoHeader.Props.C07
namespace GoHeader.C03
open GoHeader GoHeader.Mach GoHeader.C07

/-- getter output that violates the contract (empty slice, not starting at from+1) or an error never
    stores anything: the two checks in requestHeaders abort the attempt -/
theorem c03_bad_getter_output_not_stored (fuel lo hi : Nat) (rest : List Resp) (r : Resp)
    (hr : r = .err ∨ r = .empty ∨ r = .shift) (hlt : lo < hi) :
    (requestHeaders (fuel + 1) lo hi (r :: rest)).1 = lo ∧ (requestHeaders (fuel + 1) lo hi (r :: rest)).2.1 = true := by
  rw [requestHeaders, if_neg (Nat.not_le.2 hlt)]
  rcases hr with rfl | rfl | rfl <;> simp

/-- a prefix answer is only used as far as it is contract-abiding: what gets stored after one answer
    is at most the requested range -/
theorem c03_never_beyond_request (fuel lo hi : Nat) (sc : List Resp) (h : lo ≤ hi) :
    (requestHeaders fuel lo hi sc).1 ≤ hi := (request_bounds fuel lo hi sc h).2

/-- the highest pending (verified) head -/
def newest : List Nat → Nat
  | [] => 0
  | p :: ps => max p (newest ps)

theorem process_le_newest (ps : List Nat) (head : Nat) (sc : List Resp) :
    (processPending ps head sc).1 ≤ max head (newest ps) := by
  fun_induction processPending ps head sc with
  | case1 => exact Nat.le_max_left ..
  | case2 _ _ _ _ _ ih => rw [newest, Nat.max_left_comm]; exact Nat.le_trans ih (Nat.le_max_right ..)
  | case3 p _ head sc =>
    exact Nat.le_trans (request_bounds _ _ _ sc (by omega)).2
      (Nat.le_trans (Nat.sub_le ..) (Nat.le_trans (Nat.le_max_left ..) (Nat.le_max_right ..)))
  | case4 _ _ _ _ _ _ _ ih => exact Nat.le_trans ih (Nat.le_max_right ..)

/-- the Store head never runs ahead of the newest verified head: whatever the getter answers, one
    run of the sync loop stores nothing above the highest pending (verified) head -/
theorem c03_head_le_newest_verified (s : SM) : s.syncRun.head ≤ max s.head (newest s.pending) := by
  fun_cases SM.syncRun s with
  | case1 => exact Nat.le_max_left ..
  | case2 => exact process_le_newest ..

/-- a gossip header that fails verification — mandatory checks, the type-level check of a forged or
    foreign header, directly or through bifurcation — is refused with an error … -/
theorem c03_invalid_refused (s : SM) (g : Gossip) (hbad : ∀ h, g ≠ .valid h) : (s.gossip g).2 = .refuse := by
  fun_cases SM.gossip s g with
  | case1 h | case2 h => exact absurd rfl (hbad h)
  | _ => rfl

/-- … and never becomes the sync target: after the delivery the target is still below its height
    (unless it already was at or above it) -/
theorem c03_refused_not_target (s : SM) (h : Nat) (g : Gossip) (hg : g = .forged h ∨ g = .otherFork h)
    (hbelow : s.target < h) : (s.setLocalHead (h - 1)).target < h := by
  have hh : h - 1 < h := Nat.sub_one_lt (Nat.ne_zero_of_lt hbelow)
  fun_cases SM.setLocalHead s (h - 1) with
  | case1 => exact hbelow
  | case2 _ h2 => rw [target_eq, List.isEmpty_iff.1 h2.1]; exact hh
  | case3 => rw [target_eq]; simp only [List.getLast?_concat]; exact hh

/-- only strictly newer valid heads are accepted; a stale or duplicated one is refused and changes nothing -/
theorem c03_stale_refused (s : SM) (h : Nat) (hle : h ≤ s.target) : s.gossip (.valid h) = (s, .refuse) := by
  simp [SM.gossip, hle]

example : (({ head := 10 } : SM).gossip (.forged 25)).1 = { head := 24 } ∧
          (({ head := 10 } : SM).gossip (.forged 25)).2 = .refuse := by decide
example : (({ head := 10, script := [.shift] } : SM).gossip (.valid 30)).1
    = { head := 10, pending := [30], err := true, script := [] } := by decide

end GoHeader.C03
