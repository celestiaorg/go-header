/-
  C01 — Verify accepts only headers passing every mandatory and type-level check.

  Property theorems only (helpers live in GoHeader/Lemmas).  The statements are about the hand
  model `GoHeader.Verify`; `c01_tie_verify` ties its guard chain to the text regenerated from
  /repo/verify.go on this run, and `c01_tie_drift` pins the regenerated clock-drift constant.
-/
import GoHeader.Verify
import GoHeader.Gen.Verify
namespace GoHeader.C01
open GoHeader

/-- Tier A tie: the guard chain regenerated from verify.go IS the model's guard chain. -/
theorem c01_tie_verify : Gen.verify = verify := by
  funext now drift t u
  -- by search, not by rewriting: a reordering of independent guards in verify.go must not break the tie
  unfold Gen.verify verify
  grind

/-- the mandatory conditions of the property text -/
def mandatoryOk (now drift : Int) (t u : Hdr) : Prop :=
  t.zero = false ∧ u.zero = false ∧ u.chain = t.chain ∧ t.height < u.height ∧
    t.time ≤ u.time ∧ u.time ≤ now + drift

/-- the condition a sentinel stands for ("the matching sentinel") -/
def cond (now drift : Int) (t u : Hdr) : Sentinel → Prop
  | .ErrZeroHeader => t.zero = true ∨ u.zero = true
  | .ErrWrongChainID => u.chain ≠ t.chain
  | .ErrKnownHeader => u.height ≤ t.height
  | .ErrUnorderedTime => u.time < t.time
  | .ErrFromFuture => u.time > now + drift
  | .ErrEmptyRange => False
  | .ErrNonAdjacentRange => False

/-- one link of a guard chain: nothing is returned exactly when this guard does not fire and the rest returns nothing -/
theorem guard_eq_none {α : Type} {c : Prop} [Decidable c] {a : α} {r : Option α} :
    (if c then some a else r) = none ↔ ¬ c ∧ r = none := by
  by_cases h : c <;> simp [h]

/-- no guard of `verify` fires exactly when the mandatory conditions hold: they are the six negated guards -/
theorem verify_none_iff (now drift : Int) (t u : Hdr) :
    verify now drift t u = none ↔ mandatoryOk now drift t u := by
  unfold verify mandatoryOk
  simp only [guard_eq_none, and_true, Bool.not_eq_true, bne_iff_ne, Decidable.not_not, Nat.not_le, Int.not_lt, gt_iff_lt]

theorem verify_some_cond (now drift : Int) (t u : Hdr) (s : Sentinel)
    (h : verify now drift t u = some s) : cond now drift t u s := by
  revert h
  fun_cases verify now drift t u <;> intro h <;> cases h
  · exact .inl ‹_›
  · exact .inr ‹_›
  · exact bne_iff_ne.mp ‹_›
  all_goals assumption

/-- C01 (accept): nil ⇔ all mandatory checks pass and the type-level Verify accepts. -/
theorem c01_accept (now drift : Int) (tv : Hdr → Hdr → TV) (t u : Hdr) :
    Verify now drift tv t u = none ↔ mandatoryOk now drift t u ∧ tv t u = .ok := by
  fun_cases Verify now drift tv t u
  case case1 s hv => exact ⟨nofun, fun h => nomatch hv.symm.trans ((verify_none_iff ..).mpr h.1)⟩
  case case2 hv htv => exact ⟨fun _ => ⟨(verify_none_iff ..).mp hv, htv⟩, fun _ => rfl⟩
  case case3 hv _ htv => exact ⟨nofun, fun h => (htv h.2).elim⟩

/-- the SoftFailure flag of a type-level rejection -/
theorem soft_iff (p : Prop) [Decidable p] (b : Bool) :
    (if !decide p then true else b) = true ↔ (¬ p ∨ b = true) := by
  by_cases hp : p <;> simp [hp]

/-- C01 (reason): every rejection wraps a sentinel whose condition holds, hard; or the type's own
    error after all mandatory checks passed, soft exactly when non-adjacent or reported soft. -/
theorem c01_reason (now drift : Int) (tv : Hdr → Hdr → TV) (t u : Hdr) (e : VErr)
    (h : Verify now drift tv t u = some e) :
    (∃ s, e.origin = .sentinel s ∧ cond now drift t u s ∧ e.soft = false) ∨
    (mandatoryOk now drift t u ∧ tv t u ≠ .ok ∧ e.origin = .typeErr ∧
      (e.soft = true ↔ (u.height ≠ t.height + 1 ∨ reportedSoft (tv t u) = true))) := by
  revert h
  fun_cases Verify now drift tv t u <;> intro h <;> cases h
  case case1 s hv => exact .inl ⟨s, rfl, verify_some_cond now drift t u s hv, rfl⟩
  case case3 hv _ htv => exact .inr ⟨(verify_none_iff ..).mp hv, htv, rfl, soft_iff ..⟩

/-- C01 (never soft for a mandatory failure). -/
theorem c01_mandatory_hard (now drift : Int) (tv : Hdr → Hdr → TV) (t u : Hdr) (e : VErr)
    (h : Verify now drift tv t u = some e) (hm : ¬ mandatoryOk now drift t u) : e.soft = false := by
  rcases c01_reason now drift tv t u e h with ⟨s, _, _, hs⟩ | ⟨hm', _⟩
  · exact hs
  · exact absurd hm' hm

/-- the regenerated constant is the documented 10 s -/
theorem c01_tie_drift : Gen.clockDrift = 10 * 1000000000 := by decide

/-- the same statements transported to the regenerated guard chain (what the code says now) -/
theorem c01_gen_none_iff (now drift : Int) (t u : Hdr) :
    Gen.verify now drift t u = none ↔ mandatoryOk now drift t u := by
  rw [c01_tie_verify]; exact verify_none_iff now drift t u

/-! non-vacuity: concrete pairs meeting the hypotheses -/
example : Verify 100 10 (fun _ _ => .ok) { height := 1, time := 5 } { height := 3, time := 110 } = none := by
  decide
example : Verify 100 10 (fun _ _ => .verr false) { height := 1, time := 5 } { height := 3, time := 7 }
    = some { origin := .typeErr, soft := true } := by decide
example : Verify 100 10 (fun _ _ => .wrapped true) { height := 1, time := 5 } { height := 2, time := 7 }
    = some { origin := .typeErr, soft := true } := by decide
example : Verify 100 10 (fun _ _ => .plain) { height := 1, time := 5 } { height := 2, time := 7 }
    = some { origin := .typeErr, soft := false } := by decide
example : Verify 100 10 (fun _ _ => .ok) { height := 1, time := 5 } { height := 2, time := 111 }
    = some { origin := .sentinel .ErrFromFuture, soft := false } := by decide

end GoHeader.C01
