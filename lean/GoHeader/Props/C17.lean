/-
  C17 — Concurrent Store use keeps Head monotone and readers never see torn state.
  Same hook-granular system as C12 (`Store.Conc`): the single flusher serialises all Appends, readers
  may run between any two flusher segments.
-/
import GoHeader.Lemmas.Conc
import GoHeader.Store.TailRace
namespace GoHeader.C17
open GoHeader GoHeader.Conc

/-- the header returned by Head() is itself retrievable — in EVERY reachable state, i.e. whenever a
    reader looks between two flusher segments -/
theorem c17_head_readable (evs : List Ev) (hd : Nat) (h : (run evs).head = some hd) :
    hd ∈ (run evs).stored :=
  (inv_run evs).headStored hd h

/-- Head() and the retrievable set never move backwards under any flusher segment; Height() only moves
    down in the one segment that (re)initialises an EMPTY store (no Head existed before) -/
theorem c17_flusher_monotone (s s' : St) (h : stepF s = some s') :
    (∀ a, s.head = some a → ∃ b, s'.head = some b ∧ a ≤ b) ∧ (∀ k, k ∈ s.stored → k ∈ s'.stored) ∧
    (s.head ≠ none → s.hs ≤ s'.hs) := by
  obtain ⟨st, hd, hs, q, f, rs⟩ := s
  -- the three claims where a segment leaves head, stored set and height alone
  have same : (∀ a, hd = some a → ∃ b, hd = some b ∧ a ≤ b) ∧ (∀ k, k ∈ st → k ∈ st) ∧ (hd ≠ none → hs ≤ hs) :=
    ⟨fun a e => ⟨a, e, Nat.le_refl a⟩, fun _ => id, fun _ => Nat.le_refl _⟩
  cases f with
  | idle => cases q <;> cases h; exact ⟨same.1, fun _ => List.mem_append_right _, same.2.2⟩
  | appended b =>
    cases hd with
    | none => cases b <;> cases h <;> exact ⟨nofun, same.2.1, (absurd rfl ·)⟩
    | some a => cases h; exact same
  | inited b => cases h; exact same
  | notified b =>
    cases hd with
    | none => cases h; exact same
    | some a => cases h; exact ⟨fun _ e => ⟨_, rfl, Option.some.inj e ▸ (walkUp_spec ..).1⟩, same.2.1, same.2.2⟩
  | headStored b old =>
    cases hd with
    | none => cases h; exact same
    | some a =>
      simp only [stepF] at h
      split at h <;> cases h
      · exact ⟨same.1, same.2.1, fun _ => Nat.le_of_lt ‹_›⟩
      · exact same
  | heightSet b => cases h; exact same

/-- reader steps never touch Head, Height or what is stored -/
theorem c17_readers_do_not_write (s s' : St) (i : Nat) (c : Bool) (h : stepR s i c = some s') :
    s'.head = s.head ∧ s'.hs = s.hs ∧ s'.stored = s.stored ∧ s'.queue = s.queue ∧ s'.fpc = s.fpc := by
  obtain ⟨_, _, _, rfl, _⟩ := stepR_eq h
  exact ⟨rfl, rfl, rfl, rfl, rfl⟩

theorem stored_step {s : St} {k : Nat} (hk : k ∈ s.stored) (e : Ev) : k ∈ (step s e).stored := by
  have key : ∀ o : Option St, (∀ s', o = some s' → k ∈ s'.stored) → k ∈ (o.getD s).stored := fun _ => getD_ind hk
  cases e with
  | flusher => exact key _ fun s' h => (c17_flusher_monotone s s' h).2.1 k hk
  | reader i | cancel i => exact key _ fun s' h => (c17_readers_do_not_write s s' i _ h).2.2.1 ▸ hk
  | append b => simp only [step]; split <;> exact hk
  | call h => exact hk

/-- every header whose Append has been worked off (flusher idle again, queue empty — what Sync waits
    for) is retrievable: the flusher only ever adds to the retrievable set -/
theorem c17_appended_stays (evs : List Ev) (e : Ev) (k : Nat) (hk : k ∈ (run evs).stored) :
    k ∈ (step (run evs) e).stored :=
  stored_step hk e

example : (run [.append [1, 2, 3], .flusher, .flusher]).head = some 1 ∧
          1 ∈ (run [.append [1, 2, 3], .flusher, .flusher]).stored := by decide

end GoHeader.C17

/-! ### DeleteRange at the tail racing an Append at the head (all interleavings) -/
namespace GoHeader.C17
open GoHeader.Store.TailRace

/-- what every reachable state of the race satisfies -/
structure Inv (c : Cfg) (s : St) : Prop where
  below : ∀ h, h < c.t0 → s.has h = false
  above : ∀ h, c.n + 1 < h → s.has h = false
  top   : s.has (c.n + 1) = true ↔ s.f ≠ .start
  head  : s.head = if s.f = .start ∨ s.f = .wrote then c.n else c.n + 1
  del   : ∀ k, s.d = .deleting k → c.t0 ≤ k ∧ k ≤ c.to ∧ s.tail = c.t0 ∧
            (∀ h, c.t0 ≤ h → h < k → s.has h = false) ∧ (∀ h, k ≤ h → h ≤ c.n → s.has h = true)
  fin   : s.d = .done → s.tail = c.to ∧ (∀ h, h < c.to → s.has h = false) ∧ (∀ h, c.to ≤ h → h ≤ c.n → s.has h = true)
  walk  : ∀ cur ch, s.f = .walking cur ch → ch = false ∧ (cur = c.t0 ∨ (cur = c.to ∧ s.d = .done))

/-- the lowest height the deleter has not removed yet -/
def low (c : Cfg) : DPc → Nat
  | .deleting k => k
  | .done => c.to

/-- the highest readable height: `n + 1` once the flush loop has written it -/
def high (c : Cfg) : FPc → Nat
  | .start => c.n
  | _ => c.n + 1

theorem high_bounds (c : Cfg) : ∀ f, c.n ≤ high c f ∧ high c f ≤ c.n + 1
  | .start => ⟨Nat.le_refl _, Nat.le_succ _⟩
  | .wrote | .advanced | .walking .. | .done => ⟨Nat.le_succ _, Nat.le_refl _⟩

theorem succ_le_high (c : Cfg) : ∀ f, c.n + 1 ≤ high c f ↔ f ≠ .start
  | .start => iff_of_false (Nat.not_succ_le_self _) (· rfl)
  | .wrote | .advanced | .walking .. | .done => iff_of_true (Nat.le_refl _) nofun

/-- `Inv` in the form in which it is inductive: the shared memory is a function of the two program counters, the
    readable heights being exactly the interval `low .. high` -/
structure Span (c : Cfg) (s : St) : Prop where
  has   : ∀ h, s.has h = true ↔ low c s.d ≤ h ∧ h ≤ high c s.f
  lowIn : c.t0 ≤ low c s.d ∧ low c s.d ≤ c.to
  tail  : s.tail = if s.d = .done then c.to else c.t0
  head  : s.head = if s.f = .start ∨ s.f = .wrote then c.n else c.n + 1
  walk  : ∀ cur ch, s.f = .walking cur ch → ch = false ∧ (cur = c.t0 ∨ (cur = c.to ∧ s.d = .done))

theorem Span.inv {c : Cfg} {s : St} (h3 : c.to ≤ c.n) (hi : Span c s) : Inv c s := by
  obtain ⟨tail, head, has, f, d⟩ := s
  obtain ⟨hhas, hlow, htail, hhead, hwalk⟩ := hi
  have lo : ∀ h, h < low c d → has h = false := fun h hh =>
    Bool.eq_false_iff.mpr fun e => Nat.not_le_of_lt hh ((hhas h).mp e).1
  have up : ∀ h, low c d ≤ h → h ≤ c.n → has h = true := fun h h1 h2 =>
    (hhas h).mpr ⟨h1, Nat.le_trans h2 (high_bounds c f).1⟩
  exact {
    below := fun h hh => lo h (Nat.lt_of_lt_of_le hh hlow.1)
    above := fun h hh => Bool.eq_false_iff.mpr fun e =>
      Nat.not_le_of_lt hh (Nat.le_trans ((hhas h).mp e).2 (high_bounds c f).2)
    top := (hhas _).trans ((and_iff_right (Nat.le_succ_of_le (Nat.le_trans hlow.2 h3))).trans (succ_le_high c f))
    head := hhead
    del := fun k hk => by cases hk; exact ⟨hlow.1, hlow.2, htail, fun h _ => lo h, up⟩
    fin := fun hd => by cases hd; exact ⟨htail, lo, up⟩
    walk := hwalk }

theorem interval_push {has : Nat → Bool} {lo hi : Nat} (hh : ∀ h, has h = true ↔ lo ≤ h ∧ h ≤ hi) (hl : lo ≤ hi + 1)
    (h : Nat) : (if h = hi + 1 then true else has h) = true ↔ lo ≤ h ∧ h ≤ hi + 1 := by
  split
  · next e => subst e; exact iff_of_true rfl ⟨hl, Nat.le_refl _⟩
  · next hne =>
    exact (hh h).trans (and_congr_right fun _ =>
      ⟨Nat.le_succ_of_le, fun h' => Nat.le_of_lt_succ (Nat.lt_of_le_of_ne h' hne)⟩)

theorem interval_pop {has : Nat → Bool} {lo hi : Nat} (hh : ∀ h, has h = true ↔ lo ≤ h ∧ h ≤ hi) (h : Nat) :
    (if h = lo then false else has h) = true ↔ lo + 1 ≤ h ∧ h ≤ hi := by
  split
  · next e => subst e; exact iff_of_false nofun fun e => Nat.not_succ_le_self h e.1
  · next hne =>
    exact (hh h).trans (and_congr_left fun _ => ⟨fun h' => Nat.lt_of_le_of_ne h' (Ne.symm hne), Nat.le_of_succ_le⟩)

theorem span_init (c : Cfg) (h2 : c.t0 < c.to) : Span c (init c) :=
  ⟨fun h => by simp [init, low, high], ⟨Nat.le_refl _, Nat.le_of_lt h2⟩, rfl, rfl, nofun⟩

theorem span_stepF {c : Cfg} {s s' : St} (h1 : 1 ≤ c.t0) (h3 : c.to ≤ c.n) (hi : Span c s) (hs : stepF s = some s') :
    Span c s' := by
  obtain ⟨tail, head, has, f, d⟩ := s
  cases f with
  | start =>
    -- the header lands in pending: `n + 1` joins the interval
    cases hs
    cases hi.head.trans (if_pos (Or.inl rfl))
    exact { hi with
      has := interval_push hi.has (Nat.le_succ_of_le (Nat.le_trans hi.lowIn.2 h3)), head := rfl, walk := nofun }
  | wrote =>
    cases hs
    cases hi.head.trans (if_pos (Or.inr rfl))
    exact { hi with head := rfl, walk := nofun }
  | advanced =>
    -- nextTail loads the pointer: `t0` while the deleter runs, `to` once it is done
    cases hs
    refine { hi with walk := fun cur ch e => ?_ }
    cases e
    refine ⟨rfl, ?_⟩
    by_cases hd : d = .done
    · exact Or.inr ⟨hi.tail.trans (if_pos hd), hd⟩
    · exact Or.inl (hi.tail.trans (if_neg hd))
  | walking cur ch =>
    -- the look-up below the loaded tail finds nothing, so nothing is published
    obtain ⟨rfl, hc⟩ := hi.walk cur ch rfl
    have hcl : 1 ≤ cur ∧ cur ≤ low c d := by
      rcases hc with rfl | ⟨rfl, rfl⟩
      · exact ⟨h1, hi.lowIn.1⟩
      · exact ⟨Nat.le_trans h1 hi.lowIn.1, Nat.le_refl _⟩
    have : has (cur - 1) = false := Bool.eq_false_iff.mpr fun e =>
      Nat.not_le_of_lt (Nat.sub_lt hcl.1 Nat.one_pos) (Nat.le_trans hcl.2 ((hi.has _).mp e).1)
    simp only [stepF, this] at hs
    cases hs
    exact { hi with walk := nofun }
  | done => cases hs

theorem span_stepD {c : Cfg} {s s' : St} (hi : Span c s) (hs : stepD c s = some s') : Span c s' := by
  obtain ⟨tail, head, has, f, d⟩ := s
  cases d with
  | deleting k =>
    simp only [stepD] at hs
    split at hs <;> cases hs
    · next hk =>
      -- height `k` leaves the interval at its lower end
      exact { hi with
        has := interval_pop hi.has, lowIn := ⟨Nat.le_succ_of_le hi.lowIn.1, hk⟩
        walk := fun cur ch e => (hi.walk cur ch e).imp_right fun e2 => Or.inl (e2.resolve_right nofun) }
    · next hk =>
      -- `k = to`: setTail publishes `to`
      cases Nat.le_antisymm hi.lowIn.2 (Nat.le_of_not_lt hk)
      exact { hi with
        tail := rfl, walk := fun cur ch e => (hi.walk cur ch e).imp_right fun e2 => e2.imp_right fun e3 => ⟨e3.1, rfl⟩ }
  | done => cases hs

theorem span_run (c : Cfg) (h1 : 1 ≤ c.t0) (h2 : c.t0 < c.to) (h3 : c.to ≤ c.n) (sched : List Bool) :
    Span c (run c sched) :=
  List.foldlRecOn sched (step c) (span_init c h2) fun s hi who _ => by
    unfold step
    split
    · next e =>
      cases who
      · exact span_stepD hi e
      · exact span_stepF h1 h3 hi e
    · exact hi

theorem inv_run (c : Cfg) (h1 : 1 ≤ c.t0) (h2 : c.t0 < c.to) (h3 : c.to ≤ c.n) (sched : List Bool) :
    Inv c (run c sched) :=
  (span_run c h1 h2 h3 sched).inv h3

/-- **C17, tail-side delete racing an append**: under EVERY interleaving of the flush loop's accesses with the
deleter's, once both are done the Tail is the one the deleter set, the Head the one the appender reached, and
exactly the heights `to .. n+1` are readable: a gap-free chain, the result of either sequential order.  -/
theorem c17_tail_delete_racing_append_gap_free (c : Cfg) (h1 : 1 ≤ c.t0) (h2 : c.t0 < c.to) (h3 : c.to ≤ c.n)
    (sched : List Bool) (hf : (run c sched).f = .done) (hd : (run c sched).d = .done) :
    (run c sched).tail = c.to ∧ (run c sched).head = c.n + 1 ∧
    ∀ h, (run c sched).has h = true ↔ (c.to ≤ h ∧ h ≤ c.n + 1) := by
  have I := span_run c h1 h2 h3 sched
  exact ⟨I.tail.trans (if_pos hd), I.head.trans (by rw [hf]; rfl), by have := I.has; rwa [hf, hd] at this⟩

/-- the flush loop never publishes a tail during the race (its `changed` flag stays false) -/
theorem c17_recede_never_stores_stale_tail (c : Cfg) (h1 : 1 ≤ c.t0) (h2 : c.t0 < c.to) (h3 : c.to ≤ c.n)
    (sched : List Bool) (cur : Nat) (ch : Bool) (h : (run c sched).f = .walking cur ch) : ch = false :=
  ((span_run c h1 h2 h3 sched).walk cur ch h).1

/-- non-vacuity: a schedule with 4 flush-loop turns and `to - t0 + 1` deleter turns ends both actors -/
example : (run ⟨2, 5, 7⟩ [true, true, true, false, false, true, false, false]).f = .done ∧
    (run ⟨2, 5, 7⟩ [true, true, true, false, false, true, false, false]).d = .done ∧
    (run ⟨2, 5, 7⟩ [true, true, true, false, false, true, false, false]).tail = 5 ∧
    (run ⟨2, 5, 7⟩ [true, true, true, false, false, true, false, false]).head = 8 := by decide

end GoHeader.C17
