/-
  C06 — Store survives restart and crash without loss or dangling head/tail pointers.

  Proved here (about `Store.Seq`): the clean Stop/Start clause for every reachable state; what a
  Store opened on an ARBITRARY datastore image reports (pointers that do not resolve are dropped, the
  ends that remain resolve to stored headers); the between-the-ends clause under the explicit
  hypothesis that the image has no hole between its two pointers; Head reaching the tip when the
  continuation is appended.  `c06_crash_counterexample` proves that the unconditional
  between-the-ends clause is FALSE: the image a crash inside a head-side DeleteRange leaves on a
  datastore without atomic delete batches (finding F14, replayed on the real Store by the harness).
  Which images a crash can leave (prefixes of the commit log) is NOT derived in the model: the harness
  takes them from the real Store's write log and checks every one of them (see DESIGN.md §4 C06).
-/
import GoHeader.Store.PtrFault
import GoHeader.Lemmas.Store
namespace GoHeader.C06
open GoHeader GoHeader.Store

/-- a refused write of the tail pointer inside a tail-side DeleteRange (`Store.PtrFault`): the Tail the running store
    reports still resolves to a stored header ... -/
theorem c06_pointer_fault_tail_resolves (s : PtrFault.St) (to : Nat) (hto : to ∈ s.stored) (fault : Bool) :
    PtrFault.TailResolves (PtrFault.deleteTail true s to fault) := by
  intro h hh
  cases fault <;> simp [PtrFault.deleteTail] at hh ⊢ <;> (subst hh; exact ⟨hto, Nat.le_refl _⟩)

/-- ... and a clean Stop / Start reports the same Tail as before (the final flush persists the pointers from memory) -/
theorem c06_pointer_fault_restart_same_tail (s : PtrFault.St) (to : Nat) (hto : to ∈ s.stored) (fault : Bool) :
    (PtrFault.reopen (PtrFault.stop (PtrFault.deleteTail true s to fault))).memTail =
      (PtrFault.deleteTail true s to fault).memTail := by
  cases fault <;> simp [PtrFault.deleteTail, PtrFault.stop, PtrFault.reopen, hto]

/-- Clean restart: after Stop and Start the Store reports the same Head, Tail and Height and holds
    exactly the headers it was given — including every batch whose Append returned before Stop
    (still in the write queue or the pending batch). -/
theorem c06_clean_restart (s : St) (hg : Good s) :
    s.restart.head = s.sync.flushStop.head ∧ s.restart.tail = s.sync.flushStop.tail ∧
    (∀ k, s.restart.present k ↔ s.mentions k) ∧ s.restart.pending = [] ∧ s.restart.queue = [] ∧
    Inv s.restart :=
  have e := restart_eq s hg
  ⟨by rw [e], by rw [e], present_restart s, rfl, rfl, (good_restart s hg).1⟩

/-- the final flush of Stop does not move Head of a drained store (Head already is the top of its run) -/
theorem c06_stop_keeps_head (s : St) (hi : Inv s) : s.flushStop.head = s.head := by
  have h1 : s.flushStop.head = s.advance.head := by
    unfold St.flushStop St.commit St.recede
    cases s.advance.tail <;> rfl
  rw [h1]
  cases hh : s.head with
  | none => simp only [St.advance, hh]
  | some hd =>
    obtain ⟨_, _, _, _, htop, hhs⟩ := hi.ends hh
    obtain ⟨nh, hge, ea, hup, _⟩ := advance_spec hh hhs hi.lookup
    rw [ea]
    exact congrArg some (Nat.le_antisymm (Nat.le_of_not_lt fun hlt => htop (hup _ (Nat.lt_succ_self _) hlt)) hge)

/-- A Store opened on ANY datastore image: a pointer whose header is missing is dropped, and the
    ends that remain resolve to stored headers (retrievable by height and by hash). -/
theorem c06_reopen_ends_resolve (img : St) :
    (∀ hd, img.reopen.head = some hd → hd ∈ img.hdr ∧ img.reopen.lookup hd = true ∧ img.reopen.byHash hd = true) ∧
    (∀ tl, img.reopen.tail = some tl → tl ∈ img.hdr ∧ img.reopen.lookup tl = true ∧ img.reopen.byHash tl = true) := by
  have hash : ∀ h, h ∈ img.hdr → img.reopen.byHash h = true := fun h hm => by simp [St.byHash, St.reopen, hm]
  exact ⟨fun hd e => have hm := (resolvePtr_some.mp e).2
      ⟨hm, (lookup_iff _ _).mpr (Or.inl e), hash hd hm⟩,
    fun tl e => have hm := (resolvePtr_some.mp e).2
      ⟨hm, (lookup_iff _ _).mpr (Or.inr (Or.inl e)), hash tl hm⟩⟩

/-- an image without a hole between its two (resolving) pointers: the shape every commit of the
    flush loop and every atomic delete batch leaves -/
def NoHole (img : St) : Prop :=
  ∀ hd tl, resolvePtr img.headPtr img.hdr = some hd → resolvePtr img.tailPtr img.hdr = some tl →
    ∀ h, tl ≤ h → h ≤ hd → (h ∈ img.idx ∧ h ∈ img.hdr)

/-- C06 (partial): on an image without such a hole every height between the reopened Tail and
    Head is retrievable. -/
theorem c06_reopen_between_partial (img : St) (hn : NoHole img) (hd tl h : Nat)
    (eh : img.reopen.head = some hd) (et : img.reopen.tail = some tl) (h1 : tl ≤ h) (h2 : h ≤ hd) :
    img.reopen.lookup h = true ∧ img.reopen.byHash h = true := by
  -- `reopen` takes its ends from the resolved pointers and the key sets as they are, with nothing pending
  have hp : img.reopen.present h := Or.inr (hn hd tl eh et h h1 h2)
  exact ⟨lookup_of_present _ _ hp, byHash_of_present _ _ hp⟩

/-- the unconditional statement is false: the image left by a crash after the first of the two
    deletions of a head-side `DeleteRange(4, 6)` on a store 3..5 (datastore without atomic delete
    batches) reopens with Tail 3, Head 5 and height 4 missing (finding F14). -/
theorem c06_crash_counterexample :
    let img : St := { batch := 2, hdr := [3, 5], idx := [3, 4, 5], headPtr := some 5, tailPtr := some 3 }
    img.reopen.head = some 5 ∧ img.reopen.tail = some 3 ∧ img.reopen.getByHeight 4 = .notFound := by
  decide

/-- appending the continuation of the chain makes Head advance to (at least) the new tip
    (`hmono`: Head does not move down on Append — proved for every flush as `C17.c17_head_monotone_flush`) -/
theorem c06_continuation_reaches_tip (s : St) (hg : Good s) (hd hd' tip : Nat)
    (hs : List Nat) (hrun : ∀ h, hd < h → h ≤ tip → h ∈ hs)
    (eh : ((s.step (.append hs)).step .sync).head = some hd') (hmono : hd ≤ hd') : tip ≤ hd' := by
  have ⟨_, _, _, _, htop, _⟩ := (good_step _ .sync (good_step s (.append hs) hg)).1.ends eh
  refine Nat.le_of_not_lt fun htip => htop ?_
  exact (present_sync _ _).mpr ((mentions_append s hs _).mpr (Or.inr (hrun _ (Nat.lt_succ_of_le hmono) htip)))

end GoHeader.C06
