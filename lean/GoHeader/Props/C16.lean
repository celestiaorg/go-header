/-
  C16 — Tail selection and pruning keep the tail within the chain and never crash.

  Proved for ALL parameter values and ALL (old tail, head) pairs in 64-bit arithmetic: the tail
  arithmetic regenerated from syncer_tail.go equals the model (ties), never reaches Go's
  divide-by-zero panic, and never wraps: its results lie between the old tail and the head; the walk
  loop only moves up and stops at the first header inside the window.
  Retention (nothing younger than the window is pruned) is proved for the walk and REFUTED for the
  head-based estimate when blocks are denser than blockTime (finding F7, `c16_retention_counterexample`).
  Not modelled: renewTail / moveTail against the real store and getter (checked by the harness only,
  incl. finding F15).
-/
import GoHeader.Sync.Tail
import GoHeader.Gen.Tail
namespace GoHeader.C16
open GoHeader GoHeader.Tail

/-- Tier A ties: what syncer_tail.go says now IS the model -/
theorem c16_tie_estimate : Gen.estimateTailHeight = estimateTailHeight := rfl
theorem c16_tie_tailEstimate : Gen.tailEstimate = tailEstimate := rfl

/-- why neither function can panic: Go's division sits behind the `blockTime <= 0` early return -/
theorem beq_zero_of_not_le {bt : Int64} (hb : ¬ decide (bt ≤ 0) = true) : ¬ (bt == 0) = true :=
  fun h => hb (decide_eq_true (eq_of_beq h ▸ Int64.le_refl _))

/-- no parameter combination makes the tail arithmetic panic (integer divide by zero) -/
theorem c16_no_panic_estimate (tp bt : Int64) (h : UInt64) : estimateTailHeight tp bt h ≠ .panic := by
  fun_cases estimateTailHeight tp bt h
  case case2 hb h0 => exact absurd h0 (beq_zero_of_not_le hb)
  all_goals nofun

/-- the first-start estimate never wraps: it lies between 1 and the head height -/
theorem c16_estimate_bounds (tp bt : Int64) (h t : UInt64) (hv : estimateTailHeight tp bt h = .val t) :
    1 ≤ t.toNat ∧ t.toNat ≤ max 1 h.toNat := by
  revert hv
  fun_cases estimateTailHeight tp bt h <;> intro hv <;> cases hv
  -- the one branch that subtracts does so from a larger number
  case case4 hk =>
    have hlt := UInt64.not_le.mp (mt decide_eq_true hk)
    rw [UInt64.toNat_sub_of_le _ _ (UInt64.le_of_lt hlt)]
    exact ⟨Nat.sub_pos_of_lt (UInt64.lt_iff_toNat_lt.mp hlt), Nat.le_trans (Nat.sub_le _ _) (Nat.le_max_right _ _)⟩
  all_goals exact ⟨by decide, Nat.le_max_left _ _⟩

/-- the last two assignments of every walk branch of `findTailHeight`, as the translator writes them: raise the
    estimate to the old tail, then cap it at the head -/
def clamp (x lo hi : UInt64) : UInt64 :=
  let y := if decide (x < lo) then lo else x
  if decide (y > hi) then hi else y

theorem clamp_bounds (x : UInt64) {lo hi : UInt64} (hle : lo ≤ hi) :
    lo ≤ clamp x lo hi ∧ clamp x lo hi ≤ hi :=
  have hy : lo ≤ (if decide (x < lo) then lo else x) :=
    iteInduction (motive := (lo ≤ ·)) (fun _ => UInt64.le_refl _) fun h => UInt64.not_lt.mp (mt decide_eq_true h)
  iteInduction (motive := fun y => lo ≤ y ∧ y ≤ hi) (fun _ => ⟨hle, UInt64.le_refl _⟩)
    fun h => ⟨hy, UInt64.not_lt.mp (mt decide_eq_true h)⟩

/-- all `tailEstimate` can return, branch by branch: the old tail (early returns), or some height clamped into
    [old tail, head] together with the expected tail time; the two panic branches are unreachable -/
theorem tailEstimate_cases (w bt : Int64) (th : UInt64) (tt : Int64) (hh : UInt64) (ht : Int64) :
    tailEstimate w bt th tt hh ht = .val (.done th) ∨
    ∃ x, tailEstimate w bt th tt hh ht = .val (.walk (clamp x th hh) (ht + -w)) := by
  fun_cases tailEstimate w bt th tt hh ht
  case case3 hb _ _ h0 | case5 hb _ _ _ h0 => exact absurd h0 (beq_zero_of_not_le hb)
  case case1 | case2 => exact .inl rfl
  all_goals exact .inr ⟨_, rfl⟩

theorem c16_no_panic_tailEstimate (w bt : Int64) (th : UInt64) (tt : Int64) (hh : UInt64) (ht : Int64) :
    tailEstimate w bt th tt hh ht ≠ .panic := by
  rcases tailEstimate_cases w bt th tt hh ht with h | ⟨x, h⟩ <;> rw [h] <;> nofun

/-- the estimate handed to the walk loop never wraps and never leaves the chain: for an old tail
    at or below the head it lies in [old tail, head]; the early return keeps the old tail -/
theorem c16_tailEstimate_bounds (w bt : Int64) (th : UInt64) (tt : Int64) (hh : UInt64) (ht : Int64)
    (hle : th ≤ hh) :
    (∀ h, tailEstimate w bt th tt hh ht = .val (.done h) → h = th) ∧
    (∀ n e, tailEstimate w bt th tt hh ht = .val (.walk n e) → th ≤ n ∧ n ≤ hh) := by
  rcases tailEstimate_cases w bt th tt hh ht with h | ⟨x, h⟩ <;> rw [h]
  · exact ⟨fun _ hv => by cases hv; rfl, nofun⟩
  · exact ⟨nofun, fun _ _ hv => by cases hv; exact clamp_bounds x hle⟩

/-- the upward walk in one induction: it only moves up, never past the store height, and every header it
    steps over is older than the pruning window -/
theorem walk_spec {timeAt : Nat → Option Int64} {oldTailH storeH : Nat} {e : Int64} {fuel h r : Nat}
    (hr : walk timeAt oldTailH storeH e fuel h = some r) :
    h ≤ r ∧ r ≤ max h storeH ∧ ∀ k, h ≤ k → k < r → ∃ t, timeAt k = some t ∧ t < e := by
  fun_induction walk timeAt oldTailH storeH e fuel h with
  | case2 => cases hr  -- the store failed
  | case4 f h hc t ht hlt ih =>  -- the header at `h` is older than the window: step over it
    obtain ⟨h1, h2, h3⟩ := ih hr
    -- `h < storeH`, so the bound after the step is `storeH` itself
    refine ⟨Nat.le_of_succ_le h1, Nat.le_trans (Nat.max_eq_right hc.2 ▸ h2) (Nat.le_max_right ..), fun k a b => ?_⟩
    rcases Nat.eq_or_lt_of_le a with rfl | a
    · exact ⟨t, ht, Int64.not_le.mp hlt⟩
    · exact h3 k a b
  | _ =>  -- the walk stops at `h`: nothing was stepped over
    cases hr; exact ⟨Nat.le_refl _, Nat.le_max_left .., fun _ a b => absurd a (Nat.not_le.mpr b)⟩

/-- the walk loop only moves up, never past the store height … -/
theorem c16_walk_bounds (timeAt : Nat → Option Int64) (oldTailH storeH : Nat) (e : Int64) (fuel h r : Nat)
    (hr : walk timeAt oldTailH storeH e fuel h = some r) : h ≤ r ∧ r ≤ max h storeH :=
  ⟨(walk_spec hr).1, (walk_spec hr).2.1⟩

/-- … and every header it steps over is older than the pruning window: what the walk adds to the
    pruned range is never younger than the window (retention for the walked part) -/
theorem c16_walk_retention (timeAt : Nat → Option Int64) (oldTailH storeH : Nat) (e : Int64) (fuel h r : Nat)
    (hr : walk timeAt oldTailH storeH e fuel h = some r) :
    ∀ k, h ≤ k → k < r → ∃ t, timeAt k = some t ∧ t < e :=
  (walk_spec hr).2.2

/-- the downward walk never moves up, and where it stops one of three things holds: it reached the old tail,
    the estimate lies above the local store (nothing to look at), or the header just below is OLDER than the
    window -/
theorem c16_walkDown_spec (timeAt : Nat → Option Int64) (oldTailH storeH : Nat) (e : Int64) (fuel h r : Nat)
    (hf : h < fuel) (hr : walkDown timeAt oldTailH storeH e fuel h = some r) :
    r ≤ h ∧ (r ≤ oldTailH ∨ storeH + 1 < r ∨ ∃ t, timeAt (r - 1) = some t ∧ t < e) := by
  fun_induction walkDown timeAt oldTailH storeH e fuel h with
  | case1 h => exact absurd hf (Nat.not_lt_zero h)
  | case2 => cases hr  -- the store failed
  | case3 f h hc t ht hlt => cases hr; exact ⟨Nat.le_refl _, .inr (.inr ⟨t, ht, hlt⟩)⟩
  | case4 f h hc t ht hlt ih =>
    have := ih (Nat.sub_one_lt_of_le (Nat.zero_lt_of_lt hc.1) (Nat.le_of_lt_succ hf)) hr
    exact ⟨Nat.le_trans this.1 (Nat.sub_le h 1), this.2⟩
  | case5 f h hc => cases hr; exact ⟨Nat.le_refl _, by omega⟩

/-- `walkBoth` is the downward walk followed by the upward walk -/
theorem walkBoth_eq_some {timeAt : Nat → Option Int64} {oldTailH storeH : Nat} {e : Int64} {n r : Nat}
    (hr : walkBoth timeAt oldTailH storeH e n = some r) :
    ∃ d, walkDown timeAt oldTailH storeH e (n + 1) n = some d ∧
      walk timeAt oldTailH storeH e (storeH + 1) d = some r := by
  revert hr
  fun_cases walkBoth timeAt oldTailH storeH e n
  · nofun
  · exact fun hr => ⟨_, ‹_›, hr⟩

/-- the walk never leaves `[min n oldTail .. max n storeH]` -/
theorem c16_walkBoth_bounds (timeAt : Nat → Option Int64) (oldTailH storeH : Nat) (e : Int64) (n r : Nat)
    (hr : walkBoth timeAt oldTailH storeH e n = some r) : r ≤ max n storeH := by
  obtain ⟨d, hd, hu⟩ := walkBoth_eq_some hr
  have h1 := (c16_walkDown_spec timeAt oldTailH storeH e (n + 1) n d (Nat.lt_succ_self n) hd).1
  exact Nat.le_trans (walk_spec hu).2.1
    (Nat.max_le.mpr ⟨Nat.le_trans h1 (Nat.le_max_left ..), Nat.le_max_right ..⟩)

/-- **C16 retention** (full strength for the window path, after the F7 repair): when header times do not
    decrease with height and the estimate lies within the local store, NO header the move prunes
    (`oldTail ≤ k < newTail`) is younger than the pruning window — whatever the spacing of the headers and whatever
    the configured block time. -/
theorem c16_retention (timeAt : Nat → Option Int64) (oldTailH storeH : Nat) (e : Int64) (n r : Nat)
    (mono : ∀ a b ta tb, a ≤ b → timeAt a = some ta → timeAt b = some tb → ta ≤ tb)
    (hn : n ≤ storeH + 1)
    (hr : walkBoth timeAt oldTailH storeH e n = some r) :
    ∀ k t, oldTailH ≤ k → k < r → timeAt k = some t → t < e := by
  obtain ⟨d, hd, hu⟩ := walkBoth_eq_some hr
  obtain ⟨hle, hstop⟩ := c16_walkDown_spec timeAt oldTailH storeH e (n + 1) n d (Nat.lt_succ_self n) hd
  intro k t hk1 hk2 hkt
  by_cases hkd : d ≤ k
  · -- stepped over by the upward walk
    obtain ⟨t', ht', hlt⟩ := (walk_spec hu).2.2 k hkd hk2
    rw [hkt] at ht'; cases ht'; exact hlt
  · -- below where the downward walk stopped: no younger than the header it stopped above
    rcases hstop with h1 | h1 | ⟨t', ht', hlt⟩
    · exact absurd (Nat.le_trans h1 hk1) hkd
    · exact absurd (Nat.le_trans hle hn) (Nat.not_le.mpr h1)
    · exact Int64.lt_of_le_of_lt (mono k (d - 1) t t' (Nat.le_sub_one_of_lt (Nat.not_le.mp hkd)) hkt ht') hlt

/-- The head-based ESTIMATE alone overshoots when blocks are denser than blockTime (spacing 1 s, blockTime 2 s,
    window 100 s, old tail 400 s old at height 1, head at height 401: the estimate is 351 although the headers
    301..350 are inside the window).  This was finding F7; the downward walk (`c16_retention`) now corrects it. -/
theorem c16_estimate_overshoots_example :
    tailEstimate 100000000000 2000000000 1 0 401 400000000000
      = .val (.walk 351 300000000000) := by decide

/-- … and on that very chain (header k at time (k-1) s) the two walks bring the tail back to 301: the first
    header inside the window -/
example : walkBoth (fun k => some (Int64.ofNat ((k - 1) * 1000000000))) 1 401 300000000000 351 = some 301 := by
  decide

example : estimateTailHeight 1209600000000000 0 100 = .val 1 := by decide
example : estimateTailHeight 3600000000000 6000000000 1000 = .val 400 := by decide
example : tailEstimate 3600000000000 1000000000 5 0 11 10800000000000 = .val (.walk 5 7200000000000) := by decide

end GoHeader.C16
