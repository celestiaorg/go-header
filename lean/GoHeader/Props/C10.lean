/-
  C10 — ExchangeServer answers any request with bounded work and only true store data.
  Theorems about `P2P.handleRange` for ALL (origin, amount) in uint64 (including 0, 2^64-1 and the
  wrap-around of origin + amount) and every store shape (empty, or tail..head with tail ≥ 1).
-/
import GoHeader.P2P.Server
import GoHeader.Gen.Consts
namespace GoHeader.C10
open GoHeader GoHeader.P2P

/-- Tier A: the bound used by the model is the constant regenerated from interface.go -/
theorem c10_tie_maxRange : maxRange = Gen.maxRangeRequestSize := by decide

/-- past the `origin ≥ to` guard the `uint64` sum `to` has not wrapped: `to` and `to - origin` are what they are
    over the natural numbers, and the amount is positive -/
theorem no_wrap {o a to : UInt64} (hto : to = o + a) (h : ¬ o ≥ to) :
    to.toNat = o.toNat + a.toNat ∧ (to - o).toNat = a.toNat ∧ 1 ≤ a.toNat := by
  subst hto
  have h2 := UInt64.lt_iff_toNat_lt.mp (UInt64.not_le.mp h)
  have ho := o.toNat_lt
  have ha := a.toNat_lt
  rw [UInt64.add_comm, UInt64.add_sub_cancel, UInt64.add_comm, UInt64.toNat_add] at *
  omega

theorem getRange_reads (st : SStore) (a b : Nat) : (getRange st a b).2 = b - a := by
  fun_cases getRange st a b <;> rfl

theorem getRange_ok {st : SStore} {a b : Nat} {l : List Nat} (h : (getRange st a b).1 = .ok l) :
    ∃ tl hd, st = some (tl, hd) ∧ tl ≤ a ∧ l = List.range' a (b - a) := by
  revert h
  fun_cases getRange st a b <;> intro h <;> cases h
  exact ⟨_, _, rfl, ‹_›, rfl⟩

/-- the server asks its store for no more than the requested number of headers and never for more
    than MaxRangeRequestSize — for every request and every store -/
theorem c10_bounded (st : SStore) (origin amount : UInt64) :
    (handleRange st origin amount).2 ≤ amount.toNat ∧ (handleRange st origin amount).2 ≤ maxRange := by
  fun_cases handleRange st origin amount
  -- the two branches that ask the store: the range up to the head, and the whole range
  case case8 to hw _ hmax tl hd h1 h2 _ =>
    obtain ⟨hsum, hsub, -⟩ := no_wrap rfl hw
    rw [hsub] at hmax; rw [hsum] at h2; rw [getRange_reads]
    have hk : hd + 1 - origin.toNat ≤ amount.toNat :=
      Nat.sub_le_iff_le_add'.mpr (Nat.succ_le_of_lt (Nat.lt_of_lt_of_le (Nat.not_le.mp h2) (Nat.sub_le ..)))
    exact ⟨hk, Nat.le_trans hk (Nat.not_lt.mp hmax)⟩
  case case9 to hw _ hmax _ =>
    obtain ⟨hsum, hsub, -⟩ := no_wrap rfl hw
    rw [hsub] at hmax; rw [getRange_reads, hsum, Nat.add_sub_cancel_left]
    exact ⟨Nat.le_refl _, Nat.not_lt.mp hmax⟩
  all_goals exact ⟨Nat.zero_le _, Nat.zero_le _⟩

/-- shape of every reply: NOT_FOUND, a reset, or OK responses that are exactly the store's headers at
    origin, origin+1, … in order — the full amount, or a shorter prefix only when the range extends
    past the store's head; a head request (origin 0) returns the store's current head -/
theorem c10_reply_exact (st : SStore) (origin amount : UInt64) (l : List Nat)
    (h : (handleRange st origin amount).1 = .ok l) :
    ∃ tl hd, st = some (tl, hd) ∧
      ((origin = 0 ∧ l = [hd]) ∨
       (origin ≠ 0 ∧ ∃ k, l = List.range' origin.toNat k ∧ 1 ≤ k ∧ tl ≤ origin.toNat ∧ origin.toNat + k - 1 ≤ hd ∧
          (k = amount.toNat ∨ (origin.toNat + amount.toNat - 1 > hd ∧ origin.toNat + k - 1 = hd)))) := by
  revert h
  fun_cases handleRange st origin amount <;> intro h
  case case3 _ h0 tl hd => cases h; exact ⟨tl, hd, rfl, .inl ⟨h0, rfl⟩⟩
  case case8 to hw h0 _ tl hd h1 h2 _ =>
    -- the range up to the head: `hd + 1 - origin` headers, fewer than asked for
    obtain ⟨hsum, -, -⟩ := no_wrap rfl hw
    rw [hsum] at h2
    obtain ⟨_, _, hst, htl, rfl⟩ := getRange_ok h
    cases hst
    have e : origin.toNat + (hd + 1 - origin.toNat) - 1 = hd :=
      congrArg (· - 1) (Nat.add_sub_cancel' (Nat.le_succ_of_le (Nat.not_lt.mp h1)))
    exact ⟨tl, hd, rfl, .inr ⟨h0, _, rfl, Nat.sub_pos_of_lt (Nat.lt_succ_of_le (Nat.not_lt.mp h1)), htl,
      Nat.le_of_eq e, .inr ⟨Nat.not_le.mp h2, e⟩⟩⟩
  case case9 to hw h0 _ hhas =>
    -- the last requested height is stored: the whole range
    obtain ⟨hsum, -, ha⟩ := no_wrap rfl hw
    rw [hsum] at hhas h
    obtain ⟨tl, hd, rfl, htl, rfl⟩ := getRange_ok h
    simp only [hasAt, Bool.not_eq_true', Bool.not_eq_false, Bool.and_eq_true, decide_eq_true_eq] at hhas
    rw [Nat.add_sub_cancel_left]
    exact ⟨tl, hd, rfl, .inr ⟨h0, _, rfl, ha, htl, hhas.2, .inl rfl⟩⟩
  all_goals cases h

/-- an empty store never produces data -/
theorem c10_empty_store (origin amount : UInt64) : ∀ l, (handleRange none origin amount).1 ≠ .ok l := by
  intro l h
  obtain ⟨tl, hd, e, _⟩ := c10_reply_exact none origin amount l h
  cases e

/-! non-vacuity and the boundary cases named in the property -/
example : handleRange (some (50, 300)) 10 1 = (.notFound, 0) := by decide
example : handleRange (some (50, 300)) 298 64 = (.ok [298, 299, 300], 3) := by decide
example : handleRange (some (50, 300)) 0 1 = (.ok [300], 0) := by decide
example : handleRange (some (50, 300)) 100 65 = (.reset, 0) := by decide
example : handleRange (some (50, 300)) 18446744073709551615 2 = (.reset, 0) := by decide
example : (handleRange (some (50, 300)) 49 5).1 = .notFound := by decide

end GoHeader.C10
