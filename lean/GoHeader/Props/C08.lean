/-
  C08 — DeleteRange removes exactly the requested end of the chain, permanently.
  (state-level theorems about `Store.Seq.deleteRange`; `Good` = `Inv` ∧ no pointer without its end,
   which `Lemmas.Store.good_run` proves of every reachable state)
-/
import GoHeader.Lemmas.Store
import GoHeader.Store.DelCache
import GoHeader.Gen.Store
namespace GoHeader.C08
open GoHeader GoHeader.Store

/-- Tie T (regenerated `Gen.deleteBudget` = the expression `sub := …` in `deleteRangeRaw`, in Go's wrapping int64
    arithmetic): whatever the caller's deadline - `remaining` nanoseconds away, any non-negative int64, i.e. up to 292 years -
    the share DeleteRange spends on deleting is itself non-negative and no longer than the deadline. So no deadline makes a
    valid range undeletable by arithmetic alone ("DeleteRange accepts … a prefix, a suffix or the whole chain"). -/
theorem c08_tie_delete_budget (remaining : Int64) (h : 0 ≤ remaining) :
    0 ≤ Gen.deleteBudget remaining ∧ Gen.deleteBudget remaining ≤ remaining := by
  have hr : (0 : Int) ≤ remaining.toInt := Int64.toInt_zero ▸ Int64.le_iff_toInt_le.mp h
  -- over the integers the budget is `x / 100 * 95`, between 0 and `x`; as `x < 2 ^ 63`, neither operation wraps
  have hx : 0 ≤ remaining.toInt / 100 * 95 ∧ remaining.toInt / 100 * 95 ≤ remaining.toInt := by omega
  have hq : (remaining / 100).toInt = remaining.toInt / 100 :=
    (Int64.toInt_div_of_ne_right _ _ (by decide)).trans (Int.tdiv_eq_ediv_of_nonneg hr)
  have hm : (Gen.deleteBudget remaining).toInt = remaining.toInt / 100 * 95 := by
    rw [Gen.deleteBudget, Int64.toInt_mul, hq]
    exact Int.bmod_eq_of_le (Int.le_trans (by decide) hx.1) (Int.lt_of_le_of_lt hx.2 remaining.toInt_lt)
  rw [Int64.le_iff_toInt_le, Int64.le_iff_toInt_le, hm, Int64.toInt_zero]
  exact hx

/-- non-vacuity / the other direction: multiplying first wraps for a deadline five years away -/
example : (157680000000000000 : Int64) * 95 / 100 < 0 := by decide

/-- DeleteRange accepts only a prefix starting at Tail, a suffix ending at Head+1, or the whole chain. -/
theorem c08_shapes (s : St) (hg : Good s) (a b : Nat) (hok : (s.deleteRange a b).2 = .ok) :
    ∃ hd tl, s.syncedForDelete.head = some hd ∧ s.syncedForDelete.tail = some tl ∧ a < b ∧
      ((a = tl ∧ b ≤ hd + 1) ∨ (b = hd + 1 ∧ tl ≤ a)) := by
  obtain ⟨k, hk⟩ := delKind_of_ok hok
  obtain ⟨hd, tl, eh, et, hab, hsh⟩ := delKind_spec (good_syncedForDelete s hg).1 hk
  refine ⟨hd, tl, eh, et, hab, ?_⟩
  rcases hsh with ⟨_, h1, h2⟩ | ⟨_, h1, h2⟩ | ⟨_, h1, h2⟩
  · exact Or.inl ⟨h1, Nat.le_of_eq h2⟩
  · exact Or.inl ⟨h1, Nat.le_succ_of_le h2⟩
  · exact Or.inr ⟨h1, Nat.le_of_lt h2⟩

/-- every other range is rejected with an error and no effect (beyond draining the write queue,
    which DeleteRange always does first). -/
theorem c08_reject_noeffect (s : St) (a b : Nat) (hrej : s.syncedForDelete.delKind a b = none) :
    s.deleteRange a b = (s.syncedForDelete, .err) := deleteRange_of_none hrej

/-- when it returns nil, no header of the range is retrievable by height or by hash any more —
    whether it had been flushed or was still in the write batch; raw keys are gone too. -/
theorem c08_removed (s : St) (hg : Good s) (a b h : Nat) (hok : (s.deleteRange a b).2 = .ok)
    (h1 : a ≤ h) (h2 : h < b) :
    let s' := (s.deleteRange a b).1
    ¬ s'.present h ∧ s'.getByHeight h ≠ .found ∧ h ∉ s'.pending ∧ ¬ (h ∈ s'.idx ∧ h ∈ s'.hdr) := by
  intro s'
  obtain ⟨k, hk⟩ := delKind_of_ok hok
  have d := deleteRange_spec s hg hk
  have hnp : ¬ s'.present h := fun hp => by
    have := ((d.present h).mp hp).2
    rw [d.ok_iff.mp hok] at this
    exact this ⟨h1, h2⟩
  exact ⟨hnp, fun hf => hnp ((d.good.1.lookup h).mp ((getByHeight_found_iff _ _).mp hf).2),
    fun hp => hnp (Or.inl hp), fun hp => hnp (Or.inr hp)⟩

/-- every header outside the range is untouched — on success AND when it fails part-way. -/
theorem c08_outside_untouched (s : St) (hg : Good s) (a b h : Nat) (hout : ¬ (a ≤ h ∧ h < b)) :
    (s.deleteRange a b).1.present h ↔ s.syncedForDelete.present h := by
  obtain ⟨-, -, stop, hle, hp⟩ := deleteRange_any s hg a b
  exact (hp h).trans ⟨(·.1), fun x => ⟨x, fun hc => hout ⟨hc.1, Nat.lt_of_lt_of_le hc.2 hle⟩⟩⟩

/-- Head and Tail describe the remaining chain, also after a partial failure: the store invariant
    (ends resolve to stored headers, Tail ≤ Head, no gap, Height = Head) holds in every outcome. -/
theorem c08_pointers (s : St) (hg : Good s) (a b : Nat) : Inv (s.deleteRange a b).1 :=
  (good_deleteRange s a b hg).1

/-- the result is nil exactly when no OnDelete handler failed (given an accepted range) … -/
theorem c08_ok_iff_no_handler_failure (s : St) (hg : Good s) (a b : Nat) (k : Kind)
    (hk : s.syncedForDelete.delKind a b = some k) :
    (s.deleteRange a b).2 = .ok ↔ (s.syncedForDelete.delLoop a (b - a)).2 = none :=
  (deleteRange_spec s hg hk).ok_iff

/-- … so retrying a deletion whose handlers no longer fail completes it. -/
theorem c08_retry_completes (s : St) (hg : Good s) (a b : Nat) (k : Kind)
    (hk : s.syncedForDelete.delKind a b = some k)
    (hno : (s.syncedForDelete.delLoop a (b - a)).2 = none) : (s.deleteRange a b).2 = .ok :=
  (c08_ok_iff_no_handler_failure s hg a b k hk).mpr hno

/-- none of the deleted headers reappears after later appends (of other heights), flushes,
    deletes or a restart: permanence over EVERY continuation. -/
theorem c08_permanent (s : St) (hg : Good s) (a b h : Nat) (hok : (s.deleteRange a b).2 = .ok)
    (h1 : a ≤ h) (h2 : h < b) (cont : List Op)
    (hcont : ∀ hs, Op.append hs ∈ cont → h ∉ hs) :
    ¬ (cont.foldl St.step (s.deleteRange a b).1).present h := by
  have hnm : ¬ (s.deleteRange a b).1.mentions h := fun hm =>
    (c08_removed s hg a b h hok h1 h2).1 ((mentions_of_queue_nil (queue_deleteRange s a b hg) h).mp hm)
  have key := List.foldlRecOn (motive := fun t => Good t ∧ ¬ t.mentions h) cont St.step
    ⟨good_deleteRange s a b hg, hnm⟩ fun t ht op hop =>
      ⟨good_step t op ht.1, fun hm => (mentions_step t ht.1 op h hm).elim ht.2
        fun ⟨hs, e, hin⟩ => hcont hs (e ▸ hop) hin⟩
  exact fun hp => key.2 (Or.inl hp)

/-! non-vacuity: unflushed headers (batch 64 keeps everything pending) deleted at the tail, appended past, restarted -/
example : let s := St.run 64 [.append [1, 2, 3, 4, 5], .sync]
          (s.deleteRange 1 4).2 = .ok ∧ (s.deleteRange 1 4).1.tail = some 4 ∧
          (s.deleteRange 1 6).2 = .ok ∧ (s.deleteRange 1 6).1.head = none ∧ (s.deleteRange 1 6).1.pending = [] ∧
          (s.deleteRange 2 4).2 = .err := by
  decide

end GoHeader.C08

/-! ### deletion through a write batch against readers that fill the caches (all interleavings) -/
namespace GoHeader.C08
open GoHeader.Store.DelCache

/-- what the deleter has claimed so far is exactly `batch ++ todo = range` (up to order), and once committed the
    datastore has none of the batch -/
structure Inv (range : List Nat) (s : St) : Prop where
  cover : ∀ h, h ∈ range ↔ (h ∈ s.batch ∨ h ∈ s.todo)
  committed : 1 ≤ s.phase → s.todo = [] ∧ ∀ h ∈ s.batch, h ∉ s.ds
  done : s.phase = 2 → ∀ h ∈ s.batch, h ∉ s.cache
  phases : s.phase ≤ 2

theorem inv_init (stored range : List Nat) : Inv range (init stored range) :=
  ⟨fun _ => ⟨Or.inr, (·.elim nofun id)⟩, nofun, nofun, Nat.zero_le _⟩

/-- a read fills the cache only from the datastore, which has lost the batch once the deleter is done -/
theorem inv_stepRead (range : List Nat) (s : St) (x : Nat) (h : Inv range s) : Inv range (stepRead s x) := by
  fun_cases stepRead s x with
  | case1 | case3 => exact h
  | case2 _ hd =>  -- a miss that finds `x` in the datastore: `x` is not of a committed batch
    refine ⟨h.cover, h.committed, fun (hp : s.phase = 2) y hy => ?_, h.phases⟩
    have hx : y ≠ x := fun e => (h.committed (hp ▸ Nat.le_succ 1)).2 y hy (e ▸ List.contains_iff_mem.mp hd)
    exact List.not_mem_cons_of_ne_of_not_mem hx (h.done hp y hy)

theorem inv_stepDel (range : List Nat) (s : St) (h : Inv range s) : Inv range (stepDel true s) := by
  fun_cases stepDel true s with
  | case1 x rest ht hp =>  -- the next height moves from `todo` to the batch
    refine ⟨fun y => ?_, fun h1 => absurd (hp ▸ h1) (by decide), fun h2 => absurd (hp.symm.trans h2) (by decide), h.phases⟩
    rw [h.cover y, ht, List.mem_cons, List.mem_cons, or_left_comm, or_assoc]
  | case2 ht hp =>  -- commit: the datastore loses the batch
    exact ⟨h.cover, fun _ => ⟨ht, fun y hy hm => by simp [hy] at hm⟩, nofun, Nat.le_succ 1⟩
  | case3 hp =>  -- evict once more: the caches lose the batch
    exact ⟨h.cover, fun _ => h.committed (Nat.le_of_eq hp.symm), fun _ y hy hm => by simp [hy] at hm, Nat.le_refl 2⟩
  | case4 => exact h

theorem inv_run (stored range : List Nat) (evs : List Ev) : Inv range (run true stored range evs) :=
  List.foldlRecOn evs (step true) (inv_init stored range) fun s h e _ => by
    cases e with
    | del => exact inv_stepDel range s h
    | read x => exact inv_stepRead range s x h

/-- **after DeleteRange has returned, nothing of the range is left** — neither in the datastore nor in a cache — under
    EVERY interleaving of the deleter's steps with reads of any heights (repaired code) -/
theorem c08_deleted_is_gone_under_concurrent_reads (stored range : List Nat) (evs : List Ev) (hd : (run true stored range evs).phase = 2) :
    ∀ h ∈ range, h ∉ (run true stored range evs).ds ∧ h ∉ (run true stored range evs).cache := by
  intro h hr
  have I := inv_run stored range evs
  have hc := I.committed (by omega)
  have hb : h ∈ (run true stored range evs).batch := by
    rcases (I.cover h).1 hr with a | a
    · exact a
    · rw [hc.1] at a; cases a
  exact ⟨hc.2 h hb, I.done hd h hb⟩

/-- the code BEFORE the repair: a read of an already processed height while the batch is not committed yet leaves that
    header in the cache for good (finding F24) -/
theorem c08_stale_cache_before_repair :
    let s := run false [1, 2, 3] [1, 2] [.del, .read 1, .del, .del, .del]
    s.phase = 2 ∧ 1 ∈ s.cache ∧ 1 ∉ s.ds := by decide

example : (run true [1, 2, 3] [1, 2] [.del, .read 1, .del, .del, .del]).cache = [] := by decide

end GoHeader.C08
