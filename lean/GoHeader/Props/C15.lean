/-
  C15 — Bifurcation accepts a soft-failing head iff a verifiable path exists; terminates.
  `loop_spec` says what one search adds to its accumulator; soundness, the provenance of the promoted heads, the
  getter-failure verdict and the request bound are read off it (`run_spec`).
-/
import GoHeader.Sync.Bifurcate
namespace GoHeader.C15
open GoHeader GoHeader.Bif

/-- a chain of successful verifications from `a` through `l` to `b` -/
def ChainOk (tv : Nat → Nat → Bool) : Nat → List Nat → Nat → Prop
  | a, [], b => verify tv a b = .ok
  | a, x :: xs, b => verify tv a x = .ok ∧ ChainOk tv x xs b

theorem chain_snoc (tv) (a : Nat) (l : List Nat) (m b : Nat)
    (h1 : ChainOk tv a l m) (h2 : verify tv m b = .ok) : ChainOk tv a (l ++ [m]) b := by
  induction l generalizing a with
  | nil => exact ⟨h1, h2⟩
  | cons x xs ih => exact ⟨h1.1, ih x h1.2⟩

theorem verify_ok {tv : Nat → Nat → Bool} {a b : Nat} : verify tv a b = .ok ↔ a < b ∧ tv a b = true := by
  grind [verify]

theorem verify_soft {tv : Nat → Nat → Bool} {a b : Nat} : verify tv a b = .soft ↔ a + 1 < b ∧ tv a b = false := by
  grind [verify]

theorem verify_hard {tv : Nat → Nat → Bool} {a b : Nat} :
    verify tv a b = .hard ↔ b ≤ a ∨ b = a + 1 ∧ tv a b = false := by
  grind [verify]

/-- what a search from `subj` with window `diff` that ends with verdict `v` has added to its accumulator: the promoted
    heads `P` and the requests `R` -/
structure Search (tv : Nat → Nat → Bool) (get : Nat → Bool) (subj new diff : Nat) (v : Verdict) (P R : List Nat) :
    Prop where
  /-- every promoted head was requested … -/
  sub : P ⊆ R
  /-- … and served -/
  served : ∀ x ∈ P, get x = true
  /-- an accepting search has promoted a chain of verifications from `subj` to `new` -/
  chain : v = .accept → ChainOk tv subj P new
  /-- a getter error comes from a request that failed -/
  err : v = .getterErr → ∃ h ∈ R, get h = false
  /-- the potential (distance to the candidate) · d + diff + 1, which every request lowers (`d` bounds the distance) -/
  bound : ∀ d, new - subj ≤ d → R.length ≤ (new - subj) * d + diff + 1

theorem loop_spec {tv get new subj diff hd acc o} (e : loop tv get new subj diff hd acc = o) :
    ∃ P R, o.promoted = acc.promoted ++ P ∧ o.requests = acc.requests ++ R ∧ Search tv get subj new diff o.verdict P R := by
  subst e
  fun_induction loop tv get new subj diff hd acc with
  | case1 subj diff hd acc cand acc1 hget =>
    exact ⟨[], [cand], (List.append_nil _).symm, rfl, nofun, nofun, nofun, fun _ => ⟨cand, .head _, hget⟩,
      fun _ _ => Nat.le_add_left ..⟩
  | case2 subj diff hd acc cand acc1 hget hv =>
    exact ⟨[], [cand], (List.append_nil _).symm, rfl, nofun, nofun, nofun, nofun, fun _ _ => Nat.le_add_left ..⟩
  | case3 subj diff hd acc cand acc1 hget hv hlt ih =>
    obtain ⟨P, R, hp, hr, hs, hg, ha, he, hb⟩ := ih
    exact ⟨P, cand :: R, hp, hr.trans (List.append_assoc ..), List.subset_cons_of_subset _ hs, hg, ha,
      fun h => let ⟨y, hy, hf⟩ := he h; ⟨y, .tail _ hy, hf⟩,
      fun d hd => Nat.succ_le_of_lt (Nat.lt_of_le_of_lt (hb d hd) (by omega))⟩
  | case4 subj diff hd acc cand acc1 hget hv acc2 hok =>
    exact ⟨[cand], [cand], rfl, rfl, List.Subset.refl _, List.forall_mem_singleton.2 (Bool.of_not_eq_false hget),
      fun _ => ⟨hv, hok⟩, nofun, fun _ _ => Nat.le_add_left ..⟩
  | case5 subj diff hd acc cand acc1 hget hv acc2 hnok hle =>
    exact ⟨[cand], [cand], rfl, rfl, List.Subset.refl _, List.forall_mem_singleton.2 (Bool.of_not_eq_false hget),
      nofun, nofun, fun _ _ => Nat.le_add_left ..⟩
  | case6 subj diff hd acc cand acc1 hget hv acc2 hnok hle hlt ih =>
    obtain ⟨P, R, hp, hr, hs, hg, ha, he, hb⟩ := ih
    refine ⟨cand :: P, cand :: R, hp.trans (List.append_assoc ..), hr.trans (List.append_assoc ..),
      List.cons_subset_cons _ hs, List.forall_mem_cons.2 ⟨Bool.of_not_eq_false hget, hg⟩, fun h => ⟨hv, ha h⟩,
      fun h => let ⟨y, hy, hf⟩ := he h; ⟨y, .tail _ hy, hf⟩, fun d hd => ?_⟩
    -- promoting `cand` shortens the distance by at least one: one `d` of the potential pays for the new window and this request
    have := hb d (by omega)
    have hmul := Nat.mul_le_mul_right d hlt
    rw [Nat.succ_mul] at hmul
    exact Nat.succ_le_of_lt (by omega)

theorem run_spec {tv get subj new o} (e : run tv get subj new = o) :
    Search tv get subj new (new - subj) o.verdict o.promoted o.requests := by
  obtain ⟨P, R, hp, hr, h⟩ := loop_spec e
  rw [hp, hr]; exact h

/-- Soundness: the candidate is accepted only if the promoted intermediates form a chain of successful
    verifications from the subjective head to the candidate. -/
theorem c15_sound (tv get subj new) (h : (run tv get subj new).verdict = .accept) :
    ChainOk tv subj (run tv get subj new).promoted new :=
  (run_spec rfl).chain h

/-- only verified intermediates obtained from the getter are ever promoted to subjective head -/
theorem c15_promoted_fetched (tv get subj new) :
    ∀ x ∈ (run tv get subj new).promoted, x ∈ (run tv get subj new).requests ∧ get x = true :=
  fun x hx => ⟨(run_spec rfl).sub hx, (run_spec rfl).served x hx⟩

/-- a candidate whose intermediates cannot be fetched is refused (and only then is the verdict a getter error) -/
theorem c15_getter_failure_refuses (tv get subj new)
    (h : (run tv get subj new).verdict = .getterErr) :
    ∃ x ∈ (run tv get subj new).requests, get x = false :=
  (run_spec rfl).err h

/-- the search is entered only for soft failures; a direct success or a hard failure decides at once
    without any getter request -/
theorem c15_only_soft_bifurcates (tv get subj new) :
    verify tv subj new ≠ .soft → (syncerVerify tv get subj new).2.requests = [] := by
  intro h
  fun_cases syncerVerify tv get subj new with
  | case3 hv => exact absurd hv h
  | _ => rfl

/-- accepted by the Syncer ⇔ direct verification succeeds or the bifurcation accepts -/
theorem c15_accept_iff (tv get subj new) :
    (syncerVerify tv get subj new).1 = .accepted ↔
      (verify tv subj new = .ok ∨ (verify tv subj new = .soft ∧ (run tv get subj new).verdict = .accept)) := by
  unfold syncerVerify
  cases hv : verify tv subj new <;> simp

/-- Termination with a bounded number of getter requests, for ALL predicates and getters: at most quadratic in the
    distance. -/
theorem c15_request_bound (tv get subj new) :
    (run tv get subj new).requests.length ≤ (new - subj) * (new - subj + 3) + 1 :=
  Nat.le_trans ((run_spec rfl).bound _ (Nat.le_refl _)) (by rw [Nat.mul_add]; omega)

/-- Completeness: when adjacent headers always verify and the getter serves every height, a search over a distance
    ≥ 2 cannot end in a refusal - the candidate stays strictly between `subj` and `new`, so neither a hard failure
    nor "nothing left between" can occur. -/
theorem loop_complete (tv get new subj diff hd acc) (hadj : ∀ a, tv a (a + 1) = true) (hget : ∀ h, get h = true)
    (h2 : 2 ≤ diff) : (loop tv get new subj diff hd acc).verdict = .accept := by
  fun_induction loop tv get new subj diff hd acc with
  | case1 _ _ _ _ cand _ hg => rw [hget] at hg; cases hg
  | case2 subj diff hd acc cand acc1 hg hv =>
      rcases verify_hard.1 hv with h | ⟨h, ht⟩
      · exact absurd h (Nat.not_le.2 (Nat.lt_add_of_pos_right (Nat.div_pos h2 Nat.two_pos)))
      · rw [h, hadj] at ht; cases ht
  | case3 subj diff hd acc cand acc1 hg hv hlt ih => exact ih (Nat.lt_of_add_lt_add_left (verify_soft.1 hv).1)
  | case4 => rfl
  | case5 subj diff hd acc cand acc1 hg hv acc2 hnok hle =>
      have hc : cand + 1 = new := by have : cand = subj + diff / 2 := rfl; omega
      exact absurd (verify_ok.2 ⟨hc ▸ Nat.lt_succ_self _, hc ▸ hadj _⟩) hnok
  | case6 subj diff hd acc cand acc1 hg hv acc2 hnok hle hlt ih => exact ih (Nat.not_le.1 hle)

/-- Completeness for trust-range predicates: if verification succeeds exactly up to distance R ≥ 1
    (so a valid chain has a verifiable path) and the getter serves every height, every candidate at
    distance ≥ 2 is accepted. -/
theorem c15_complete_trust_range (R : Nat) (hR : 1 ≤ R) (tv get subj new)
    (htv : ∀ a b, tv a b = decide (b - a ≤ R)) (hget : ∀ h, get h = true) (hd : subj + 2 ≤ new) :
    (run tv get subj new).verdict = .accept :=
  loop_complete tv get new subj _ _ _ (fun a => by rw [htv, Nat.add_sub_cancel_left]; exact decide_eq_true hR) hget
    (Nat.le_sub_of_add_le' hd)

theorem ChainOk.last {tv a l b} (h : ChainOk tv a l b) : ∃ m, verify tv m b = .ok := by
  induction l generalizing a with
  | nil => exact ⟨a, h⟩
  | cons x xs ih => exact ih h.2

/-- a forged candidate (rejected by the type-level check against every header) is never accepted -/
theorem c15_forged_refused (tv get subj new) (hforged : ∀ a, tv a new = false) :
    (syncerVerify tv get subj new).1 = .refused := by
  have hno : ∀ a, verify tv a new ≠ .ok := fun a h => by have := (verify_ok.1 h).2; rw [hforged] at this; cases this
  cases hacc : (syncerVerify tv get subj new).1 with
  | refused => rfl
  | accepted =>
    rcases (c15_accept_iff tv get subj new).mp hacc with h | ⟨_, h⟩
    · exact absurd h (hno subj)
    · obtain ⟨m, hm⟩ := (c15_sound tv get subj new h).last
      exact absurd hm (hno m)

/-! non-vacuity: distance 1000, trust range 300 (the shape of the suite's bifurcation tests, with a
    predicate that really depends on distance); a forged candidate -/
example : (run (fun a b => decide (b - a ≤ 300)) (fun _ => true) 1 1001).verdict = .accept :=
  c15_complete_trust_range 300 (by omega) _ _ 1 1001 (fun _ _ => rfl) (fun _ => rfl) (by omega)
example : (syncerVerify (fun a b => decide (b - a ≤ 300) && b != 1001) (fun _ => true) 1 1001).1 = .refused :=
  c15_forged_refused _ _ 1 1001 (fun a => by simp)

end GoHeader.C15
