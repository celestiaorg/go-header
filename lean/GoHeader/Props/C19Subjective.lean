/-
  C19 — "Within one run, the heights returned by Syncer.Head() never decrease": the subjective head that `Head()` reports
  (model: GoHeader.Sync.Subjective) under EVERY interleaving of setters (gossip handler, Head() callers) with the sync loop.
-/
import GoHeader.Sync.Subjective
import GoHeader.Sync.SyncStore
namespace GoHeader.C19Subjective
open GoHeader.Subjective

/-- the loop is past `Append` only with the store at or above its target -/
def LInv (s : St) : Prop := ∀ to, s.l = .stored to → to ≤ s.sh

/-- the subjective head in closed form: only the store head and the LAST pending head matter -/
theorem localHeadNew_eq (s : St) : localHeadNew s = max (s.pend.getLast?.getD 0) s.sh := by
  unfold localHeadNew; cases s.pend.getLast? <;> simp

theorem localHeadNew_ge_store (s : St) : s.sh ≤ localHeadNew s := by
  rw [localHeadNew_eq]; exact Nat.le_max_right ..

/-- so it does not go down as long as the store head does not, and a last pending head above the store head stays last
    or is overtaken -/
theorem localHeadNew_mono {s s' : St} (hsh : s.sh ≤ s'.sh)
    (hp : s.sh < s.pend.getLast?.getD 0 → s.pend.getLast?.getD 0 ≤ s'.pend.getLast?.getD 0) :
    localHeadNew s ≤ localHeadNew s' := by
  rw [localHeadNew_eq, localHeadNew_eq]; omega

/-- dropping the heads up to `to` keeps a last pending head above `to` -/
theorem getLastD_filter {xs : List Nat} {to : Nat} (h : to < xs.getLast?.getD 0) :
    xs.getLast?.getD 0 ≤ (xs.filter (· > to)).getLast?.getD 0 := by
  cases hl : xs.getLast? with
  | none => exact Nat.zero_le _
  | some a =>
    obtain ⟨ys, rfl⟩ := List.getLast?_eq_some_iff.1 hl
    have h : a > to := by rw [hl] at h; exact h
    rw [List.filter_append, List.filter_cons_of_pos (p := (· > to)) (decide_eq_true h), List.filter_nil, List.getLast?_concat]
    exact Nat.le_refl _

theorem getLastD_addH (pend : List Nat) (y : Nat) : pend.getLast?.getD 0 ≤ (addH pend y).getLast?.getD 0 := by
  fun_cases addH pend y with
  | case1 hall =>
    rw [List.getLast?_concat]
    cases hl : pend.getLast? with
    | none => exact Nat.zero_le _
    | some p => exact Nat.le_of_lt (of_decide_eq_true (List.all_eq_true.1 hall p (List.mem_of_getLast? hl)))
  | case2 => exact Nat.le_refl _

/-- ONE step of any actor keeps `LInv` and never lowers the subjective head (after the repair) -/
theorem c19_subjective_head_step (s : St) (ev : Ev) (h : LInv s) :
    LInv (step true s ev) ∧ localHeadNew s ≤ localHeadNew (step true s ev) := by
  cases ev with
  | s i x =>
    show LInv (stepS s i x) ∧ _ ≤ localHeadNew (stepS s i x)
    fun_cases stepS s i x with
    | case4 => exact ⟨h, localHeadNew_mono (Nat.le_refl _) fun _ => getLastD_addH ..⟩
    | _ => exact ⟨h, Nat.le_refl _⟩
  | l =>
    show LInv (stepL true s) ∧ _ ≤ localHeadNew (stepL true s)
    fun_cases stepL true s with
    | case1 => exact ⟨nofun, Nat.le_refl _⟩
    | case2 => exact ⟨h, localHeadNew_mono (Nat.le_refl _) getLastD_filter⟩
    | case3 => exact ⟨h, Nat.le_refl _⟩
    | case4 to =>
      exact ⟨fun _ e => by cases e; exact Nat.le_max_right .., localHeadNew_mono (Nat.le_max_left ..) fun _ => Nat.le_refl _⟩
    | case5 to hl =>
      -- `Remove(to)` comes after `Append`: `to` is at or below the store head (`LInv`)
      exact ⟨nofun, localHeadNew_mono (Nat.le_refl _) fun hh => getLastD_filter (Nat.lt_of_le_of_lt (h to hl) hh)⟩

theorem linv_run (sh n : Nat) (evs : List Ev) : LInv (run true sh n evs) :=
  List.foldlRecOn evs (step true) nofun fun s hs e _ => (c19_subjective_head_step s e hs).1

/-- under ALL schedules of any number of setters and the sync loop, every further step leaves the subjective head at
    least where it was: the heights `Head()` reports never decrease -/
theorem c19_subjective_head_monotone (sh n : Nat) (evs : List Ev) (ev : Ev) :
    localHeadNew (run true sh n evs) ≤ localHeadNew (run true sh n (evs ++ [ev])) := by
  unfold run; rw [List.foldl_append]; exact (c19_subjective_head_step _ ev (linv_run sh n evs)).2

/-- … and it is never below the store head -/
theorem c19_subjective_head_ge_store (sh n : Nat) (evs : List Ev) :
    (run true sh n evs).sh ≤ localHeadNew (run true sh n evs) := localHeadNew_ge_store _

/-- the schedule of F40: setter 0 checks 23 against store head 20 and is delayed; setter 1 brings 24, the loop syncs it;
    setter 0 goes on -/
def f40 : List Ev := [.s 0 23, .s 1 24, .s 1 24, .l, .l, .l, .s 0 23]

/-- before the repair the subjective head went back from 24 to 23 (and stayed there) … -/
theorem c19_subjective_head_regresses_before_repair :
    trace false 20 2 f40 = [20, 20, 20, 24, 24, 24, 24, 23] ∧ (run false 20 2 (f40 ++ [.l, .l])).pend = [23] := by decide

/-- … and with it the same schedule is monotone and nothing stale stays pending -/
theorem c19_subjective_head_f40_repaired :
    trace true 20 2 f40 = [20, 20, 20, 24, 24, 24, 24, 24] ∧ (run true 20 2 (f40 ++ [.l])).pend = [] := by decide

/-! ### the cached store head (F43) -/
open GoHeader.SyncStore in
/-- after the repair NO step of any actor lowers the cached head once it is set - under ALL interleavings of any number of
    Head() callers with the appenders -/
theorem c19_cached_head_never_decreases (s : SyncStore.St) (ev : SyncStore.Ev) (c : Nat) (h : s.cache = some c) :
    ∃ c', (SyncStore.step true s ev).cache = some c' ∧ c ≤ c' := by
  cases ev with
  | append => exact ⟨c + 1, by simp [SyncStore.step, stepAppend, h], Nat.le_succ c⟩
  | head i =>
    -- a `Head()` call leaves a cache that is set as it is: the repaired publication only swaps from nil
    refine ⟨c, ?_, Nat.le_refl c⟩
    show (stepHead true s i).cache = some c
    unfold stepHead
    split <;> simp only [h]

open GoHeader.SyncStore in
/-- … and a Head() call that starts when the cache is set returns the cached value: so a call that starts after another
    one returned `c` never returns less -/
theorem c19_head_after_cached_returns_cache (s : SyncStore.St) (i : Nat) (c : Nat) (h : s.cache = some c)
    (hi : s.rs[i]? = some .idle) : (stepHead true s i).results = s.results ++ [c] := by
  simp [stepHead, hi, h]

/-- lifted to every schedule: whatever happened before, one more step never lowers a cached head -/
theorem c19_cached_head_monotone_run (store n : Nat) (evs : List SyncStore.Ev) (ev : SyncStore.Ev) (c : Nat)
    (h : (SyncStore.run true store n evs).cache = some c) :
    ∃ c', (SyncStore.run true store n (evs ++ [ev])).cache = some c' ∧ c ≤ c' := by
  unfold SyncStore.run at h ⊢; rw [List.foldl_append]; exact c19_cached_head_never_decreases _ ev c h

/-- the F43 schedule: reader 0 reads store head 20 and is paused; the adjacent header 21 is appended; reader 1 gets 21; reader 0
    publishes; reader 1 asks again. Before the repair: 21, then 20, 20 … -/
theorem c19_cached_head_regresses_before_repair :
    (SyncStore.run false 20 2 [.head 0, .append, .head 1, .head 0, .head 1]).results = [21, 20, 20] := by decide

/-- … after it: 21, 21, 21 -/
theorem c19_cached_head_f43_repaired :
    (SyncStore.run true 20 2 [.head 0, .append, .head 1, .head 0, .head 1]).results = [21, 21, 21] := by decide

end GoHeader.C19Subjective
