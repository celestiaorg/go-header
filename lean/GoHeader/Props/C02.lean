/-
  C02 — VerifyRange returns exactly the verified, height-adjacent prefix of its input.
-/
import GoHeader.Verify
namespace GoHeader.C02
open GoHeader

/-- every element was verified against its predecessor (`t` for the first); heights step by one
    from the first element on (`first = true` exempts the first element from adjacency) -/
def Chain (now drift : Int) (tv : Hdr → Hdr → TV) : Hdr → Bool → List Hdr → Prop
  | _, _, [] => True
  | t, first, u :: us =>
    Verify now drift tv t u = none ∧ (first = false → u.height = t.height + 1) ∧
      Chain now drift tv u false us

/-- last element of `t :: r` — the rolling trusted header after the verified prefix `r` -/
def lastOr (t : Hdr) : List Hdr → Hdr
  | [] => t
  | u :: us => lastOr u us

/-- The loop of `VerifyRange` in one statement: the input is the returned prefix followed by some `rest`, and
    the prefix is a chain. Nothing is left exactly when no error is returned; otherwise the first header left is the
    culprit: it fails `Verify` against its predecessor or (not being first) breaks adjacency. -/
theorem loop_spec {now drift : Int} {tv} {t : Hdr} {f : Bool} {us : List Hdr} {p : List Hdr × Option VErr}
    (h : verifyLoop now drift tv t f us = p) :
    Chain now drift tv t f p.1 ∧ ∃ rest, us = p.1 ++ rest ∧
      match rest with
      | [] => p.2 = none
      | bad :: _ => p.2 ≠ none ∧ (Verify now drift tv (lastOr t p.1) bad ≠ none ∨
          ((f = true → p.1 ≠ []) ∧ bad.height ≠ (lastOr t p.1).height + 1)) := by
  fun_induction verifyLoop now drift tv t f us generalizing p with
  | case1 => subst h; exact ⟨trivial, [], rfl, rfl⟩
  | case2 t f u us e hv =>  -- `u` fails Verify
    subst h
    exact ⟨trivial, u :: us, rfl, nofun, .inl fun h => nomatch hv.symm.trans h⟩
  | case3 t f u us hv hadj =>  -- `u` is not first and not adjacent
    subst h
    rw [Bool.and_eq_true, Bool.not_eq_true', bne_iff_ne] at hadj
    obtain ⟨rfl, hne⟩ := hadj
    exact ⟨trivial, u :: us, rfl, nofun, .inr ⟨nofun, fun h => hne h.symm⟩⟩
  | case4 t f u us hv hadj =>  -- `u` is taken, the loop goes on from it
    rename_i ih
    subst h
    obtain ⟨hc, rest, hus, hrest⟩ := ih rfl
    refine ⟨⟨hv, fun hf => ?_, hc⟩, rest, congrArg (u :: ·) hus, ?_⟩
    · subst hf; exact (Decidable.not_not.mp (mt bne_iff_ne.mpr hadj)).symm
    · cases rest with
      | nil => exact hrest
      | cons bad _ => exact ⟨hrest.1, hrest.2.imp id fun h => ⟨fun _ => nofun, h.2⟩⟩

/-- C02: the result is a prefix of the input … -/
theorem c02_prefix (now drift : Int) (tv) (t : Hdr) (us : List Hdr) :
    (VerifyRange now drift tv t us).1 <+: us := by
  cases us with
  | nil => exact List.nil_prefix
  | cons u us =>
    obtain ⟨-, rest, h, -⟩ := loop_spec (p := VerifyRange now drift tv t (u :: us)) rfl
    exact ⟨rest, h.symm⟩

/-- … in which each header passed Verify against its predecessor and heights step by one. -/
theorem c02_chain (now drift : Int) (tv) (t : Hdr) (us : List Hdr) :
    Chain now drift tv t true (VerifyRange now drift tv t us).1 := by
  cases us with
  | nil => trivial
  | cons u us => exact (loop_spec (p := VerifyRange now drift tv t (u :: us)) rfl).1

/-- C02: the error is nil iff the returned slice is the whole, non-empty input. -/
theorem c02_nil_iff (now drift : Int) (tv) (t : Hdr) (us : List Hdr) :
    (VerifyRange now drift tv t us).2 = none ↔ (us ≠ [] ∧ (VerifyRange now drift tv t us).1 = us) := by
  cases us with
  | nil => exact ⟨nofun, fun h => absurd rfl h.1⟩
  | cons u us =>
    obtain ⟨-, rest, h, hrest⟩ := loop_spec (p := VerifyRange now drift tv t (u :: us)) rfl
    cases rest with
    | nil => exact ⟨fun _ => ⟨nofun, (h.trans (List.append_nil _)).symm⟩, fun _ => hrest⟩
    | cons bad _ => exact ⟨fun he => absurd he hrest.1, fun hr => nomatch List.self_eq_append_right.mp (hr.2.trans h)⟩

/-- C02: an empty input is an error (ErrEmptyRange, hard). -/
theorem c02_empty (now drift : Int) (tv) (t : Hdr) :
    VerifyRange now drift tv t [] = ([], some { origin := .sentinel .ErrEmptyRange, soft := false }) := rfl

/-- C02: the first header that fails verification or adjacency is never part of the result:
    on error the input splits as `result ++ bad :: rest`, and `bad` is what failed. -/
theorem c02_first_bad_excluded (now drift : Int) (tv) (t : Hdr) (us : List Hdr)
    (hne : us ≠ []) (he : (VerifyRange now drift tv t us).2 ≠ none) :
    ∃ bad rest, us = (VerifyRange now drift tv t us).1 ++ bad :: rest ∧
      let r := (VerifyRange now drift tv t us).1
      let p := lastOr t r
      (Verify now drift tv p bad ≠ none ∨ (r ≠ [] ∧ bad.height ≠ p.height + 1)) := by
  cases us with
  | nil => exact absurd rfl hne
  | cons u us =>
    obtain ⟨-, rest, h, hrest⟩ := loop_spec (p := VerifyRange now drift tv t (u :: us)) rfl
    cases rest with
    | nil => exact absurd hrest he
    | cons bad rest =>
      exact ⟨bad, rest, h, hrest.2.imp id fun hb => ⟨hb.1 rfl, hb.2⟩⟩

/-! non-vacuity -/
private def h (n : Nat) : Hdr := { height := n, time := n }
example : VerifyRange 100 10 (fun _ _ => .ok) (h 1) [h 5, h 6, h 7] = ([h 5, h 6, h 7], none) := by decide
example : (VerifyRange 100 10 (fun _ _ => .ok) (h 1) [h 5, h 6, h 8]).1 = [h 5, h 6] := by decide
example : (VerifyRange 100 10 (fun _ _ => .ok) (h 1) [h 5, h 6, h 8]).2
    = some { origin := .sentinel .ErrNonAdjacentRange, soft := false } := by decide

end GoHeader.C02
