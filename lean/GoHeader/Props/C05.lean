/-
  C05 — Exchange.GetRangeByHeight yields a verified contiguous run from from+1 or fails.
  C18's splitting/exactness theorems live here too (same model); Props/C18.lean re-exports them.

  A step only moves heights from outstanding to collected, so every run keeps the heights covered (up to order) and the
  requested range (`Keeps`, `run_keeps`). The start state tiles the range, hence every reachable state does, and once
  enough is collected the sorted collection is that range.
-/
import GoHeader.P2P.Session
namespace GoHeader.C05
open GoHeader GoHeader.Sess

def cover (s : St) : List Nat := s.collected ++ (s.outstanding.map Req.heights).flatten

/-- the invariant: collected heights ⊎ outstanding ranges are exactly from+1 … from+amount, each once -/
def Tiling (s : St) : Prop := (cover s).Perm (List.range' s.first s.amount)

/-- C18: `prepareRequests` covers [from, from+amount) exactly, in order (for every amount, chunk size ≥ 1) -/
theorem c18_split_covers (origin amount per fuel : Nat) (hp : 0 < per) (hf : amount ≤ fuel) :
    ((prepare origin amount per fuel).map Req.heights).flatten = List.range' origin amount := by
  fun_induction prepare origin amount per fuel with
  | case1 => cases Nat.le_zero.mp hf; rfl
  | case2 => rfl
  | case3 => exact List.append_nil _
  | case4 origin amount fuel _ hge ih =>
    -- enough fuel is left: amount ≤ fuel + 1 ≤ fuel + per
    have hfuel : amount - per ≤ fuel := Nat.sub_le_of_le_add (Nat.le_trans hf (Nat.add_le_add_left hp fuel))
    show List.range' origin per ++ _ = _
    rw [ih hfuel, List.range'_append_1, Nat.add_sub_cancel' (Nat.le_of_not_lt hge)]

/-- C18: every prepared chunk is non-empty and at most `per` long -/
theorem c18_split_sizes (origin amount per fuel : Nat) (hp : 0 < per) :
    ∀ r ∈ prepare origin amount per fuel, 0 < r.amount ∧ r.amount ≤ per := by
  fun_induction prepare origin amount per fuel with
  | case1 | case2 => nofun
  | case3 _ _ _ h0 hlt => exact List.forall_mem_cons.mpr ⟨⟨Nat.pos_of_ne_zero h0, Nat.le_of_lt hlt⟩, nofun⟩
  | case4 _ _ _ _ _ ih => exact List.forall_mem_cons.mpr ⟨⟨hp, Nat.le_refl _⟩, ih⟩

/-- degenerate requests (to ≤ from.Height()+1) are rejected up front — an error, not a hang or a panic -/
theorem c05_degenerate (fromH to per : Nat) (h : to ≤ fromH + 1) : start fromH to per = none :=
  if_pos h

/-- a session that starts is asked for the non-empty range from+1 … to-1, and its first state tiles it -/
theorem tiling_start {fromH to per : Nat} (hp : 0 < per) {s : St} (h : start fromH to per = some s) :
    Tiling s ∧ s.first = fromH + 1 ∧ s.amount = to - (fromH + 1) ∧ fromH + 1 < to := by
  revert h
  fun_cases start fromH to per
  · nofun
  · rintro ⟨⟩
    exact ⟨.of_eq (c18_split_covers _ _ per _ hp (Nat.le_refl _)), rfl, rfl, Nat.lt_of_not_le ‹_›⟩

/-- what `step` re-queues once the first `k` heights of `r` are accepted: the rest of `r`, unless that is empty -/
def remainder (r : Req) (k : Nat) : List Req :=
  if k < r.amount then [{ origin := r.origin + k, amount := r.amount - k }] else []

/-- the accepted prefix and what is re-queued make up the request -/
theorem remainder_heights {r : Req} {k : Nat} (hk : k ≤ r.amount) :
    List.range' r.origin k ++ ((remainder r k).map Req.heights).flatten = r.heights := by
  have : ((remainder r k).map Req.heights).flatten = List.range' (r.origin + k) (r.amount - k) := by
    fun_cases remainder r k
    · exact List.append_nil _
    · rw [Nat.sub_eq_zero_of_le (Nat.le_of_not_lt ‹_›)]; rfl
  rw [this, List.range'_append_1, Nat.add_sub_cancel' hk]; rfl

theorem remainder_pos (r : Req) (k : Nat) : ∀ r' ∈ remainder r k, 0 < r'.amount := by
  fun_cases remainder r k
  · exact List.forall_mem_cons.mpr ⟨Nat.sub_pos_of_lt ‹_›, nofun⟩
  · nofun

theorem step_ok {s : St} {i k : Nat} {r : Req} (hr : s.outstanding[i]? = some r) (hk1 : 0 < k) (hk2 : k ≤ r.amount) :
    step s i (.ok k) = { s with collected := s.collected ++ List.range' r.origin k
                                outstanding := s.outstanding.eraseIdx i ++ remainder r k } := by
  simp only [step, hr]
  exact if_neg fun h => h.elim (Nat.ne_of_gt hk1) (Nat.not_lt.mpr hk2)

theorem step_fail (s : St) (i : Nat) : step s i .fail = s := by
  unfold step; split <;> rfl

/-- a step changes the state only when it accepts a non-empty prefix of an outstanding request (`step_ok`) -/
theorem step_cases (s : St) (i : Nat) (o : Outcome) :
    step s i o = s ∨ ∃ r k, s.outstanding[i]? = some r ∧ 0 < k ∧ k ≤ r.amount ∧ o = .ok k := by
  fun_cases step s i o
  case case4 r hr k hk _ _ =>
    exact .inr ⟨r, k, hr, Nat.pos_of_ne_zero fun h => hk (.inl h), Nat.le_of_not_lt fun h => hk (.inr h), rfl⟩
  all_goals exact .inl rfl

theorem perm_cons_eraseIdx {α} {l : List α} {i : Nat} {a : α} (h : l[i]? = some a) : l.Perm (a :: l.eraseIdx i) := by
  induction l generalizing i with
  | nil => cases h
  | cons x xs ih =>
    cases i with
    | zero => cases h; exact .refl _
    | succ j => exact ((ih h).cons x).trans (.swap ..)

/-- accepting the first `k` heights of the request at index `i` and re-queueing its remainder takes exactly those
    heights out of what is outstanding -/
theorem heights_accept {l : List Req} {i k : Nat} {r : Req} (hr : l[i]? = some r) (hk : k ≤ r.amount) :
    ((l.map Req.heights).flatten).Perm
      (List.range' r.origin k ++ ((l.eraseIdx i ++ remainder r k).map Req.heights).flatten) := by
  rw [List.map_append, List.flatten_append]
  refine ((perm_cons_eraseIdx hr).map Req.heights).flatten.trans ?_
  rw [List.map_cons, List.flatten_cons, ← remainder_heights hk, List.append_assoc]
  exact .append_left _ List.perm_append_comm

/-- what every step keeps: the heights covered (up to order), the requested range, and that no request is empty -/
structure Keeps (s t : St) : Prop where
  cover : (cover t).Perm (cover s)
  first : t.first = s.first
  amount : t.amount = s.amount
  nonempty : (∀ r ∈ s.outstanding, 0 < r.amount) → ∀ r ∈ t.outstanding, 0 < r.amount

theorem Keeps.refl (s : St) : Keeps s s := ⟨.refl _, rfl, rfl, id⟩

theorem Keeps.trans {s t u : St} (h₁ : Keeps s t) (h₂ : Keeps t u) : Keeps s u :=
  ⟨h₂.cover.trans h₁.cover, h₂.first.trans h₁.first, h₂.amount.trans h₁.amount, h₂.nonempty ∘ h₁.nonempty⟩

theorem Keeps.tiling {s t : St} (h : Keeps s t) (hs : Tiling s) : Tiling t := by
  unfold Tiling; rw [h.first, h.amount]; exact h.cover.trans hs

theorem step_keeps (s : St) (i : Nat) (o : Outcome) : Keeps s (step s i o) := by
  rcases step_cases s i o with h | ⟨r, k, hr, hk1, hk2, rfl⟩
  · rw [h]; exact .refl s
  · rw [step_ok hr hk1 hk2]
    refine ⟨?_, rfl, rfl, fun hall => List.forall_mem_append.mpr
      ⟨fun r' h => hall r' (List.mem_of_mem_eraseIdx h), remainder_pos r k⟩⟩
    show (s.collected ++ _ ++ _).Perm _
    rw [List.append_assoc]
    exact ((heights_accept hr hk2).append_left _).symm

/-- whatever the peers do (any request answered with any outcome, in any order), the tiling holds -/
theorem c05_tiling_step (s : St) (i : Nat) (o : Outcome) (h : Tiling s) : Tiling (step s i o) :=
  (step_keeps s i o).tiling h

/-- every run of the session: any sequence of (request index, outcome) events -/
def runEvents (s : St) (evs : List (Nat × Outcome)) : St := evs.foldl (fun st e => step st e.1 e.2) s

theorem run_keeps (s : St) (evs : List (Nat × Outcome)) : Keeps s (runEvents s evs) :=
  List.foldlRecOn (motive := Keeps s) evs _ (.refl s) fun t ht e _ => ht.trans (step_keeps t e.1 e.2)

theorem tiling_run (s : St) (evs : List (Nat × Outcome)) (h : Tiling s) (hall : ∀ r ∈ s.outstanding, 0 < r.amount) :
    Tiling (runEvents s evs) ∧ ∀ r ∈ (runEvents s evs).outstanding, 0 < r.amount :=
  ⟨(run_keeps s evs).tiling h, (run_keeps s evs).nonempty hall⟩

theorem first_amount_run (s : St) (evs : List (Nat × Outcome)) :
    (runEvents s evs).first = s.first ∧ (runEvents s evs).amount = s.amount :=
  ⟨(run_keeps s evs).first, (run_keeps s evs).amount⟩

theorem mergeSort_eq_of_perm {l l' : List Nat} (h : l.Perm l') (hs : l'.Pairwise (· ≤ ·)) :
    l.mergeSort (fun x y => decide (x ≤ y)) = l' :=
  ((List.mergeSort_perm l _).trans h).eq_of_pairwise (le := (· ≤ ·)) (fun _ _ _ _ => Nat.le_antisymm)
    ((List.pairwise_mergeSort (le := fun x y => decide (x ≤ y))
      (fun _ _ _ => by simpa using Nat.le_trans) (fun a b => by simpa using Nat.le_total a b) l).imp
        of_decide_eq_true) hs

/-- in a state that tiles its range, a returned slice is that range in ascending order -/
theorem result_of_tiling {s : St} (ht : Tiling s) {res : List Nat} (hr : result s = some res) :
    res = List.range' s.first s.amount := by
  revert hr
  fun_cases result s
  · rintro ⟨⟩
    -- enough was collected: the collected heights, a sublist of the cover and no shorter, are all of it
    have hlen : (cover s).length ≤ s.collected.length := by
      rw [ht.length_eq, List.length_range']; assumption
    rw [(List.sublist_append_left ..).eq_of_length_le hlen]
    exact mergeSort_eq_of_perm ht List.pairwise_le_range'
  · nofun

/-- C05 / C18 result: for EVERY from, to, chunk size and EVERY sequence of peer answers — Byzantine or
    not — if GetRangeByHeight returns a slice, it is exactly from+1, from+2, …, to-1: non-empty, no gaps,
    no duplicates, ascending, below `to`. -/
theorem c05_result_exact (fromH to per : Nat) (hp : 0 < per) (s0 : St) (hs : start fromH to per = some s0)
    (evs : List (Nat × Outcome)) (res : List Nat) (hr : result (runEvents s0 evs) = some res) :
    res = List.range' (fromH + 1) (to - (fromH + 1)) ∧ res ≠ [] := by
  obtain ⟨ht, hf, ha, hlt⟩ := tiling_start hp hs
  have hk := run_keeps s0 evs
  have hres := result_of_tiling (hk.tiling ht) hr
  rw [hk.first, hk.amount, hf, ha] at hres
  exact ⟨hres, hres ▸ mt List.range'_eq_nil_iff.mp (Nat.sub_ne_zero_of_lt hlt)⟩

example : (start 5 14 4).map (·.outstanding) = some [⟨6, 4⟩, ⟨10, 4⟩] := by decide
example : (runEvents ((start 5 14 4).get (by decide)) [(1, .ok 4), (0, .ok 1), (0, .fail), (0, .ok 3)]).collected
    = [10, 11, 12, 13, 6, 7, 8, 9] := by decide

end GoHeader.C05
