/-
  C13 — Exchange.Get/GetByHeight return only validated, correctly bound headers.
-/
import GoHeader.P2P.Client
namespace GoHeader.C13
open GoHeader GoHeader.P2P

/-- the header an answer carries, if it is a valid one -/
def header? : GAns → Option (Nat × Nat)
  | .valid id h => some (id, h)
  | _ => none

theorem header?_eq_none {a : GAns} : header? a = none ↔ ∀ i k, a ≠ .valid i k := by
  cases a <;> simp [header?]

theorem header?_eq_some {a : GAns} {id h : Nat} : header? a = some (id, h) ↔ a = .valid id h := by
  cases a <;> simp [header?]

/-- `performRequest` returns the first header found in arrival order -/
theorem performRequest_eq_findSome? (l : List GAns) : performRequest l = l.findSome? header? := by
  induction l with
  | nil => rfl
  | cons a rest ih => cases a with | valid => rfl | _ => exact ih

theorem performRequest_first_valid (l : List GAns) (id h : Nat) :
    performRequest l = some (id, h) ↔
      ∃ pre post, l = pre ++ .valid id h :: post ∧ ∀ a ∈ pre, ∀ i k, a ≠ .valid i k := by
  simp only [performRequest_eq_findSome?, List.findSome?_eq_some_iff, header?_eq_some, header?_eq_none]
  exact ⟨fun ⟨pre, _, post, e, ha, hpre⟩ => ⟨pre, post, ha ▸ e, hpre⟩, fun ⟨pre, post, e, hpre⟩ => ⟨pre, _, post, e, rfl, hpre⟩⟩

theorem performRequest_eq_none {l : List GAns} : performRequest l = none ↔ ∀ a ∈ l, ∀ i k, a ≠ .valid i k := by
  simp only [performRequest_eq_findSome?, List.findSome?_eq_none_iff, header?_eq_none]

theorem getByHeight_ok {height id h : Nat} {l : List GAns} (hr : getByHeight height l = .ok id h) :
    performRequest l = some (id, h) := by
  revert hr
  fun_cases getByHeight height l
  case case2 hp => rintro ⟨⟩; exact hp
  all_goals nofun

theorem getByHash_ok {hash id h : Nat} {l : List GAns} (hr : getByHash hash l = .ok id h) :
    id = hash ∧ performRequest l = some (id, h) := by
  revert hr
  fun_cases getByHash hash l
  case case1 hp => rintro ⟨⟩; exact ⟨rfl, hp⟩
  all_goals nofun

/-- Get(hash) returns a header whose hash equals the requested hash, or an error -/
theorem c13_get_bound (hash : Nat) (arrival : List GAns) (id h : Nat)
    (hr : getByHash hash arrival = .ok id h) : id = hash :=
  (getByHash_ok hr).1

/-- whatever Get / GetByHeight return was a valid answer (decoded, validated, right chain) of a trusted
    peer — the first such answer in arrival order -/
theorem c13_first_valid (height : Nat) (arrival : List GAns) (id h : Nat)
    (hr : getByHeight height arrival = .ok id h) :
    ∃ pre post, arrival = pre ++ .valid id h :: post ∧ ∀ a ∈ pre, ∀ i k, a ≠ .valid i k :=
  (performRequest_first_valid arrival id h).mp (getByHeight_ok hr)

theorem c13_get_first_valid (hash : Nat) (arrival : List GAns) (id h : Nat)
    (hr : getByHash hash arrival = .ok id h) :
    ∃ pre post, arrival = pre ++ .valid id h :: post ∧ ∀ a ∈ pre, ∀ i k, a ≠ .valid i k :=
  (performRequest_first_valid arrival id h).mp (getByHash_ok hr).2

/-- they fail with an error when no trusted peer answers validly -/
theorem c13_error_when_no_valid (height hash : Nat) (arrival : List GAns)
    (hnone : ∀ a ∈ arrival, ∀ i k, a ≠ .valid i k) :
    getByHeight height arrival = .err ∧ getByHash hash arrival = .err := by
  unfold getByHeight getByHash
  rw [performRequest_eq_none.mpr hnone]
  exact ⟨ite_self _, rfl⟩

/-- GetByHeight succeeds whenever some trusted peer answers validly (for a positive height) -/
theorem c13_ok_when_some_valid (height : Nat) (h0 : 0 < height) (arrival : List GAns) (i k : Nat)
    (hv : GAns.valid i k ∈ arrival) : ∃ id h, getByHeight height arrival = .ok id h := by
  unfold getByHeight
  rw [if_neg (Nat.ne_of_gt h0)]
  cases hp : performRequest arrival with
  | none => exact absurd rfl (performRequest_eq_none.mp hp _ hv i k)
  | some p => exact ⟨p.1, p.2, rfl⟩

example : getByHash 7 [.fail, .hang, .valid 7 10, .valid 8 10] = .ok 7 10 := by decide
example : getByHash 7 [.valid 8 10, .valid 7 10] = .err := by decide
example : getByHeight 10 [.fail, .fail] = .err := by decide

end GoHeader.C13
