/-
  C18 — With honest peers the Exchange returns the full range however it is split.
  (model: P2P.Session; the splitting and exactness theorems are proved in Props/C05 for arbitrary
   peers, here they are specialised to honest ones and a progress measure is added)
-/
import GoHeader.Props.C05
import GoHeader.P2P.Score
namespace GoHeader.C18
open GoHeader GoHeader.Sess GoHeader.C05

/-- the scores that order the session's peer queue stay FINITE numbers under every sequence of booked outcomes
    (successes of any duration, sub-millisecond ones included, and NOT_FOUND / empty answers) - so the queue's
    comparison stays a total order and no peer can become invisible to it (`P2P.Score`, classes of float32 values) -/
theorem c18_score_stays_finite (evs : List Score.Ev) : Score.run true .fin evs = .fin :=
  Score.run_fixed Score.step_fixed_fin evs

/-- the code before the F33 repair: one sub-millisecond success and one NOT_FOUND make the score NaN, and NaN stays -/
theorem c18_score_nan_before_repair (evs : List Score.Ev) :
    Score.run false .fin ([.ok 0, .fail] ++ evs) = .nan := by
  show Score.run false (Score.run false .fin [.ok 0, .fail]) evs = .nan
  rw [Score.old_reaches_nan, Score.nan_absorbing]

/-- `prepareRequests` covers the range exactly, in order, with non-empty chunks of at most `per` -/
theorem c18_split (origin amount per : Nat) (hp : 0 < per) :
    ((prepare origin amount per amount).map Req.heights).flatten = List.range' origin amount ∧
    ∀ r ∈ prepare origin amount per amount, 0 < r.amount ∧ r.amount ≤ per :=
  ⟨c18_split_covers origin amount per amount hp (Nat.le_refl _), c18_split_sizes origin amount per amount hp⟩

/-- an honest peer holding the chain up to `have_` answers a request it can serve with a non-empty
    prefix of exactly the requested heights -/
theorem c18_honest_answer (have_ : Nat) (r : Req) (h1 : r.origin ≤ have_) (h2 : 0 < r.amount) :
    ∃ k, outcome have_ r .honest = .ok k ∧ 0 < k ∧ k ≤ r.amount :=
  ⟨_, if_pos h1, Nat.lt_min.mpr ⟨h2, Nat.sub_pos_of_lt (Nat.lt_succ_of_le h1)⟩, Nat.min_le_left ..⟩

/-- progress: an accepted non-empty answer strictly decreases the number of headers still owed;
    a failed one (NOT_FOUND, timeout, disconnect) leaves it unchanged -/
def owed (s : St) : Nat := ((s.outstanding.map Req.heights).flatten).length

-- (`ht` is not used: what is owed is counted on the outstanding requests alone)
theorem c18_progress (s : St) (i : Nat) (r : Req) (k : Nat) (hr : s.outstanding[i]? = some r)
    (hk1 : 0 < k) (hk2 : k ≤ r.amount) (ht : Tiling s) :
    owed (step s i (.ok k)) + k = owed s ∧ owed (step s i .fail) = owed s := by
  refine ⟨?_, congrArg owed (step_fail s i)⟩
  have := (heights_accept hr hk2).length_eq
  rw [List.length_append, List.length_range'] at this
  rw [step_ok hr hk1 hk2, owed, owed, this, Nat.add_comm]

/-- with honest peers (every answer is a non-empty correct prefix or a benign failure) a returned
    slice is exactly from+1 … to-1 in ascending order, for every chunk size, peer count and split -/
theorem c18_exact (fromH to per : Nat) (hp : 0 < per) (s0 : St) (hs : start fromH to per = some s0)
    (evs : List (Nat × Outcome)) (res : List Nat) (hr : result (runEvents s0 evs) = some res) :
    res = List.range' (fromH + 1) (to - (fromH + 1)) :=
  (c05_result_exact fromH to per hp s0 hs evs res hr).1

end GoHeader.C18
