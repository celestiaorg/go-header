/-
  C11 — Subscriber delivers/relays a gossip message only if it decodes and verifies.
  The quantifier is a finite table (payload effect × verifier outcome); the theorems are proved by
  case analysis over the table: a payload that does not decode and validate is rejected whatever the
  verifier would say, for one that does the verifier's outcome decides.
-/
import GoHeader.P2P.Subscriber
import GoHeader.P2P.Lifecycle
namespace GoHeader.C11
open GoHeader.P2P

/-- the gate is in place whenever messages can flow: after ANY sequence of Start / Stop / Subscribe / Cancel calls a
    joined topic has `verifyMessage` registered as its validator (`P2P.Lifecycle`; with the Stop of the F38 repair) -/
theorem c11_gate_while_joined (ops : List Lifecycle.Op) :
    Lifecycle.Inv (Lifecycle.run true {} ops) :=
  Lifecycle.run_inv ops {} nofun

/-- before the repair: Start, Subscribe, Stop (which fails) left the topic joined without its validator -/
theorem c11_gate_lost_before_repair : ¬ Lifecycle.Inv (Lifecycle.run false {} [.start, .subscribe, .stop]) := by
  unfold Lifecycle.Inv; decide

attribute [local simp] verifyMessage VOutcome.isSoft

/-- a message is accepted (reaches Subscriptions and is relayed) exactly when it decodes, passes
    Validate and the registered verifier returns nil -/
theorem c11_accept_iff (e : Extract) (o : VOutcome) :
    verifyMessage e o = .accept ↔ (e = .ok ∧ o = .nil_) := by
  cases e with
  | ok => cases o <;> simp
  | _ => simp

/-- it is ignored (no penalty) exactly for a decodable, valid header whose verifier reports a
    SoftFailure *VerifyError (bare or wrapped), or when no verifier was set in time -/
theorem c11_ignore_iff (e : Extract) (o : VOutcome) :
    verifyMessage e o = .ignore ↔ (e = .ok ∧ (o = .soft ∨ o = .wrapSoft ∨ o = .unset)) := by
  cases e with
  | ok => cases o <;> simp
  | _ => simp

/-- everything else — undecodable bytes, failing Validate, any other error, a panic in decoding,
    validation or verification — is rejected -/
theorem c11_reject_iff (e : Extract) (o : VOutcome) :
    verifyMessage e o = .reject ↔
      (e ≠ .ok ∨ o = .hard ∨ o = .wrapHard ∨ o = .plain ∨ o = .panic) := by
  cases e with
  | ok => cases o <;> simp
  | _ => simp

/-- the validator is total: every combination has a verdict (none of them can crash the node) -/
theorem c11_total (e : Extract) (o : VOutcome) :
    verifyMessage e o = .accept ∨ verifyMessage e o = .ignore ∨ verifyMessage e o = .reject := by
  cases verifyMessage e o <;> simp

example : verifyMessage .ok .nil_ = .accept := by decide
example : verifyMessage .ok .wrapSoft = .ignore := by decide
example : verifyMessage .panics .nil_ = .reject := by decide

end GoHeader.C11
