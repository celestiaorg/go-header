/-
  C12 — GetByHeight waits for a future height and wakes once that header is stored.
  Statements about the hook-granular reader × flusher system `Store.Conc`, for ALL schedules (lists
  of scheduler events), any number of readers, any batches (contiguous, gapped, out of order).
-/
import GoHeader.Lemmas.Conc
import GoHeader.Store.HeightSub
namespace GoHeader.C12
open GoHeader GoHeader.Conc

/-- a store WITHOUT a head (fresh, or emptied by a whole-chain DeleteRange) receives its first batch a..b
    (`Store.HeightSub`: Init(a), Notify(a..b), SetHeight(b)): whoever was parked, on whatever heights, nobody is left
    waiting for a height at or below b - in particular not the waiter of the first height itself, which Init does not release -/
theorem c12_first_batch_no_lost_wakeup (s : HeightSub.St) (a b : Nat) (hab : a ≤ b) :
    ∀ x ∈ (HeightSub.firstBatch s a b).subs, b < x := by
  intro x hx
  -- SetHeight only removes waiters: `x` has passed the filters of Init (not below `a`) and of Notify (not in `a .. b`)
  have ⟨hi, hn⟩ := HeightSub.mem_filter_of (HeightSub.subs_setHeight hx)
  have ha : a ≤ x := of_decide_eq_true (HeightSub.mem_filter_of hi).2
  have hb : x < a ∨ b + 1 ≤ x := by simpa [Nat.add_sub_of_le (Nat.le_succ_of_le hab)] using hn
  exact hb.resolve_left (Nat.not_lt.mpr ha)

/-- ... and a reader arriving afterwards for a height of the batch is not parked at all -/
theorem c12_first_batch_then_elapsed (s : HeightSub.St) (a b x : Nat) (hab : a ≤ b) (hx : x ≤ b) :
    (HeightSub.register (HeightSub.firstBatch s a b) x).2 = false := by
  unfold HeightSub.register
  rw [if_pos (Nat.le_trans hx (HeightSub.le_height_setHeight _ b) : (HeightSub.firstBatch s a b).height ≥ x)]

/-- No lost wake-up: in every reachable state in which the flusher has worked off its batch, no
    reader is parked on a height that is stored — whether or not it is contiguous with Head, and
    however the append interleaved with the reader's lookup / registration. -/
theorem c12_no_lost_wakeup (evs : List Ev) (hidle : (run evs).fpc = .idle) :
    ∀ r ∈ (run evs).readers, r.pc = .parked → r.h ∉ (run evs).stored :=
  fun r hr hp => ((inv_run evs).parked r hr hp).resolve_right (by simp [OwesNotify, hidle])

/-- a reader returns `found` only for a height that is stored -/
theorem c12_found_is_stored (evs : List Ev) :
    ∀ r ∈ (run evs).readers, r.pc = .done .found → r.h ∈ (run evs).stored :=
  (inv_run evs).found

/-- a height at or below Height() that is not stored is answered ErrNotFound promptly: the reader
    goes lookup → elapsed → lookup without ever parking -/
theorem c12_prompt_notfound (s : St) (i : Nat) (r : Reader) (hr : s.readers[i]? = some r)
    (hpc : r.pc = .start) (hle : r.h ≤ s.hs) (hns : s.stored.contains r.h = false) :
    ∃ s1 s2 s3, stepR s i false = some s1 ∧ stepR s1 i false = some s2 ∧ stepR s2 i false = some s3 ∧
      s3.readers[i]? = some { r with pc := .done .notFound } := by
  have hlt : i < s.readers.length := (List.getElem?_eq_some_iff.mp hr).1
  -- R1 misses, R2 sees the height elapsed, R6 misses again; each step rewrites slot `i` only
  refine ⟨{ s with readers := s.readers.set i { r with pc := .missed } },
          { s with readers := s.readers.set i { r with pc := .woken } },
          { s with readers := s.readers.set i { r with pc := .done .notFound } },
          ?_, ?_, ?_, List.getElem?_set_self hlt⟩
  · simp only [stepR, hr, hpc, hns, Bool.false_eq_true, if_false]
  · simp only [stepR, List.getElem?_set_self hlt, hle, if_true, List.set_set]
  · simp only [stepR, List.getElem?_set_self hlt, hns, Bool.false_eq_true, if_false, List.set_set]

/-- a cancelled context always releases a parked caller (one step), and nobody else is affected -/
theorem c12_cancel_releases (s : St) (i : Nat) (r : Reader) (hr : s.readers[i]? = some r) (hpc : r.pc = .parked) :
    stepR s i true = some { s with readers := s.readers.set i { r with pc := .done .ctxErr } } := by
  simp only [stepR, hr, hpc, if_true]

/-- a parked reader whose height gets appended IS woken: after the flusher's Notify step for a batch
    containing its height it is no longer parked -/
theorem c12_notify_wakes (s : St) (b : List Nat) (hf : s.fpc = .inited b) (s' : St) (hs : stepF s = some s') :
    ∀ r ∈ s'.readers, r.pc = .parked → r.h ∉ b := by
  unfold stepF at hs
  simp only [hf] at hs
  cases hs
  exact fun r hr hp => by simpa using (mem_wake hr (by simp [hp])).2 hp

/-! non-vacuity: the lost-wake-up schedule of finding F11 (reader misses, the NON-contiguous header is
    appended and notified before the reader registers) — with the re-check after registration the
    reader finds it -/
example : let s := run [.append [1], .flusher, .flusher, .flusher, .flusher, .flusher, .flusher,
                        .call 9, .reader 0,                 -- first lookup misses
                        .append [9], .flusher, .flusher, .flusher,   -- Append(9): pending, ensureInit, Notify
                        .reader 0, .reader 0,               -- fast check, register
                        .reader 0, .reader 0]               -- re-check finds it, second lookup
          s.readers = [⟨9, .done .found⟩] ∧ s.head = some 1 := by decide

end GoHeader.C12
