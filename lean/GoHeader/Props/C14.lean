/-
  C14 — OnDelete handlers run once per removed header, before it becomes unreadable.
  Statements about `Store.Seq.deleteRange` (sequential delete path; the parallel path for ranges of
  ≥ 10 000 headers is not modelled, see DESIGN.md).  Handlers are scripts: a handler either returns
  nil or fails (error or panic — the store's recover() wrapper turns both into an error).
-/
import GoHeader.Lemmas.StoreCalls
import GoHeader.Store.SnapRead
namespace GoHeader.C14
open GoHeader GoHeader.Store

/-- context-aware datastore (`Store.SnapRead`): whatever the flush loop and appenders do while a deletion runs - any
    sequence of flushes, appends and deletions of OTHER heights - a header of the range that was stored (datastore or
    pending batch) when the deletion opened its read transaction is found by its handler, which reads the datastore as
    it is now (the F34 repair) -/
theorem c14_handler_finds_header (disk pending : List Nat) (ops : List SnapRead.Op) (h : Nat)
    (hs : h ∈ disk ∨ h ∈ pending) (hd : ∀ o ∈ ops, o ≠ .delete h) :
    SnapRead.handlerFinds true (SnapRead.run (SnapRead.openTxn disk pending) ops) h = true := by
  -- whatever the flush loop and appenders do, a header that has not been deleted yet is still stored somewhere
  have : SnapRead.Stored (SnapRead.run (SnapRead.openTxn disk pending) ops) h :=
    List.foldlRecOn ops SnapRead.step hs fun s hs o ho => SnapRead.step_keeps s o h hs (hd o ho)
  unfold SnapRead.handlerFinds
  rcases this with h | h <;> simp [h]

/-- before the repair the handler read through the deletion's snapshot: pending at the start, flushed meanwhile ⇒ not found -/
theorem c14_snapshot_misses_before_repair :
    SnapRead.handlerFinds false (SnapRead.run (SnapRead.openTxn [1] [2, 3]) [.delete 1, .append 4, .flush]) 2 = false := by
  decide

/-- every handler call of a DeleteRange is for a height of the range and happens while that header
    is still readable through GetByHeight. -/
theorem c14_readable_at_call (s : St) (hg : Good s) (a b : Nat) (h0 : 0 < a) :
    ∀ c ∈ (s.syncedForDelete.delLoop a (b - a)).1.calls, a ≤ c.height ∧ c.height < a + (b - a) ∧ c.readable = true := by
  obtain ⟨added, e, hall⟩ := delLoop_calls s.syncedForDelete (good_syncedForDelete s hg).1.2.1 a (b - a) _ rfl h0
  rw [e]
  exact hall

-- holds of every state, reachable or not (`delLoop_ok_log`): `hg` is not used
/-- when the range is deleted completely, each registered handler was called exactly once per
    stored header of the range: the log is, for the stored heights in ascending order, every handler
    in registration order. -/
theorem c14_once_per_removed (s : St) (hg : Good s) (a b : Nat)
    (hok : (s.syncedForDelete.delLoop a (b - a)).2 = none) :
    (s.syncedForDelete.delLoop a (b - a)).1.calls.map (fun c => (c.height, c.handler)) =
      expectedCalls (fun h => decide (h ∈ s.syncedForDelete.idx ∨ h ∈ s.syncedForDelete.pending))
        s.syncedForDelete.handlers.length a (b - a) := by
  obtain ⟨added, e, hexp, _⟩ := delLoop_ok_log s.syncedForDelete a (b - a) hok
  rw [e]
  exact hexp

/-- `expectedCalls` lists exactly the (stored height of the range, registered handler) pairs … -/
theorem c14_expected_mem (stored : Nat → Bool) (nh a n h i : Nat) :
    (h, i) ∈ expectedCalls stored nh a n ↔ (a ≤ h ∧ h < a + n ∧ stored h = true ∧ i < nh) := by
  simp only [expectedCalls_eq, List.mem_flatMap, List.mem_range'_1]
  constructor
  · rintro ⟨x, hx, hm⟩
    split at hm
    · obtain ⟨j, hj, e⟩ := List.mem_map.mp hm
      cases e
      exact ⟨hx.1, hx.2, ‹_›, by simpa using hj⟩
    · cases hm
  · rintro ⟨h1, h2, h3, h4⟩
    exact ⟨h, ⟨h1, h2⟩, by rw [if_pos h3]; exact List.mem_map.mpr ⟨i, by simpa using h4, rfl⟩⟩

/-- … each of them once. -/
theorem c14_expected_nodup (stored : Nat → Bool) (nh a n : Nat) : (expectedCalls stored nh a n).Nodup := by
  have hfst : ∀ (h : Nat) (x : Nat × Nat), x ∈ (if stored h then (List.range' 0 nh).map (h, ·) else []) → x.1 = h := by
    intro h x hx
    split at hx
    · obtain ⟨_, _, rfl⟩ := List.mem_map.mp hx; rfl
    · cases hx
  rw [expectedCalls_eq, List.Nodup, List.pairwise_flatMap]
  refine ⟨fun h _ => ?_, (List.pairwise_lt_range' (s := a) (n := n)).imp fun hlt x hx y hy e => ?_⟩
  · split
    · exact List.pairwise_map.mpr ((List.nodup_range' (s := 0) (n := nh)).imp fun hne e => hne (Prod.mk.inj e).2)
    · exact .nil
  · rw [← hfst _ x hx, ← hfst _ y hy, e] at hlt; exact Nat.lt_irrefl _ hlt

/-- if a handler returns an error or panics at height `h`, that header is not removed and remains
    readable, DeleteRange returns the error (never crashes), and everything below `h` that was
    removed had all its handlers succeed. -/
theorem c14_failure_keeps_header (s : St) (hg : Good s) (a b h : Nat) (k : Kind)
    (hk : s.syncedForDelete.delKind a b = some k)
    (hf : (s.syncedForDelete.delLoop a (b - a)).2 = some h) :
    (s.deleteRange a b).2 = .err ∧ (s.deleteRange a b).1.present h ∧ a ≤ h ∧ h < b ∧
      (∀ j, (s.deleteRange a b).1.present j ↔ s.syncedForDelete.present j ∧ ¬ (a ≤ j ∧ j < h)) := by
  have d := deleteRange_spec s hg hk
  rw [hf] at d
  have hph := d.failed h rfl
  refine ⟨?_, (d.present h).mpr ⟨hph.2, fun x => Nat.lt_irrefl _ x.2⟩, d.stop_ge, hph.1, d.present⟩
  cases hr : (s.deleteRange a b).2 with
  | ok => cases d.ok_iff.mp hr
  | err => rfl

/-- a retry invokes the handlers for the failed header again: after a failed tail-side deletion the
    header that failed is still stored, so a new DeleteRange covering it runs its handlers again. -/
theorem c14_retry_calls_again (s : St) (hc : Coh s) (h n : Nat) (hin : h ∈ s.idx ∨ h ∈ s.pending)
    (hne : s.handlers ≠ []) :
    (s.delLoop h (n + 1)).1.calls.length > s.calls.length := by
  have hfirst : 0 < (runHandlers s h s.handlers 0).2.1.length := by
    cases hh : s.handlers with
    | nil => exact absurd hh hne
    | cons x xs => unfold runHandlers; split <;> exact Nat.succ_pos _
  -- the handlers of `h` run first; whatever follows only appends to the log
  have hlog : (s.afterHandlers h).calls.length > s.calls.length := by
    rw [St.afterHandlers, List.length_append]; exact Nat.lt_add_of_pos_right hfirst
  rw [St.delLoop, if_pos hin]
  split
  · obtain ⟨added, e, _⟩ :=
      delLoop_calls ((s.afterHandlers h).delOne h) (coh_delOne _ h hc) (h + 1) n _ rfl (Nat.succ_pos h)
    rw [e, List.length_append]; exact Nat.lt_of_lt_of_le hlog (Nat.le_add_right ..)
  · exact hlog

/-! non-vacuity: two handlers, the second fails on its 3rd call (height 3); retry without failure completes -/
example : let s := St.run 2 [.onDelete [], .onDelete [2], .append [1, 2, 3, 4, 5], .sync]
          (s.deleteRange 1 5).2 = .err ∧ (s.deleteRange 1 5).1.tail = some 3 ∧
          (s.deleteRange 1 5).1.getByHeight 3 = .found ∧
          (s.deleteRange 1 5).1.calls.map (fun c => (c.height, c.handler, c.readable)) =
            [(1, 0, true), (1, 1, true), (2, 0, true), (2, 1, true), (3, 0, true), (3, 1, true)] ∧
          ((s.deleteRange 1 5).1.deleteRange 3 5).2 = .ok := by
  decide

end GoHeader.C14
