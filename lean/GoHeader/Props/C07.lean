/-
  C07 — With an honest getter the Syncer reaches every verified target; errors delay it.
  C03's storing-path theorems are in the same file family (Props/C03.lean imports this one).
  Model: `Sync.Machine` (sequential; the gossip-handler × sync-loop interleavings are not modelled).
-/
import GoHeader.Sync.Machine
import GoHeader.Sync.Trigger
namespace GoHeader.C07
open GoHeader GoHeader.Mach

/-- a getter that serves the requested ranges, possibly as shorter non-empty contiguous prefixes -/
def Honest (sc : List Resp) : Prop := ∀ r ∈ sc, r = .ok ∨ ∃ k, r = .pfx k

/-- the iterations of `requestHeaders … hi` seen from outside: the loop stops (fuel spent, or nothing left to fetch); or
    the answer is refused and nothing of it is stored; or `k ≥ 1` headers within the request are stored and it goes on
    with the rest of the script (an exhausted script answers `ok`). What the loop guarantees is proved by induction
    over this relation, not over the ten branches of the definition. -/
inductive Req (hi : Nat) : Nat → Nat → List Resp → Nat × Bool × List Resp → Prop
  | stop : fuel = 0 ∨ hi ≤ lo → Req hi fuel lo sc (lo, false, sc)
  | refused : lo < hi → r = .err ∨ r = .empty ∨ r = .shift → Req hi (fuel + 1) lo (r :: rest) (lo, true, rest)
  | stored : lo < hi → 1 ≤ k → lo + k ≤ hi → Req hi fuel (lo + k) sc.tail res → Req hi (fuel + 1) lo sc res

theorem requestHeaders_req (fuel lo hi : Nat) (sc : List Resp) : Req hi fuel lo sc (requestHeaders fuel lo hi sc) := by
  induction fuel generalizing lo sc with
  | zero => exact .stop (.inl rfl)
  | succ n ih =>
    rw [requestHeaders]
    by_cases h : hi ≤ lo
    · rw [if_pos h]; exact .stop (.inr h)
    · have hlt := Nat.lt_of_not_le h
      have hs : 1 ≤ min (hi - lo) maxReq ∧ lo + min (hi - lo) maxReq ≤ hi :=
        ⟨Nat.le_min.2 ⟨Nat.sub_pos_of_lt hlt, by decide⟩, Nat.add_le_of_le_sub' (Nat.le_of_lt hlt) (Nat.min_le_left ..)⟩
      rw [if_neg h]
      match sc with
      | [] | .ok :: _ => exact .stored hlt hs.1 hs.2 (ih ..)
      | .pfx k :: _ =>
        by_cases hk : 1 ≤ k ∧ k < min (hi - lo) maxReq
        · simp only [if_pos hk]; exact .stored hlt hk.1 (by omega) (ih ..)
        · simp only [if_neg hk]; exact .stored hlt hs.1 hs.2 (ih ..)
      | .err :: _ | .empty :: _ => exact .refused hlt (by simp)
      | .shift :: _ => simp only [ite_self]; exact .refused hlt (by simp)

/-- `requestHeaders` never moves backwards and never past its target — whatever the getter does -/
theorem request_bounds (fuel lo hi : Nat) (sc : List Resp) (h : lo ≤ hi) :
    lo ≤ (requestHeaders fuel lo hi sc).1 ∧ (requestHeaders fuel lo hi sc).1 ≤ hi := by
  have hr := requestHeaders_req fuel lo hi sc
  generalize requestHeaders fuel lo hi sc = res at hr ⊢
  induction hr with
  | stop | refused => exact ⟨Nat.le_refl _, h⟩
  | stored _ _ hle _ ih => have := ih hle; omega

/-- progress: with an honest getter every iteration stores at least one header, so the loop reaches
    its target without an error — for every way the ranges are cut into prefixes -/
theorem c07_request_reaches_target (fuel lo hi : Nat) (sc : List Resp) (hh : Honest sc) (hf : hi - lo ≤ fuel) :
    (requestHeaders fuel lo hi sc).1 = max lo hi ∧ (requestHeaders fuel lo hi sc).2.1 = false ∧
      Honest (requestHeaders fuel lo hi sc).2.2 := by
  have hr := requestHeaders_req fuel lo hi sc
  generalize requestHeaders fuel lo hi sc = res at hr ⊢
  induction hr with
  | stop => exact ⟨(Nat.max_eq_left (by omega)).symm, rfl, hh⟩
  | @refused _ r _ _ _ hr => rcases hh r (.head _) with rfl | ⟨k, rfl⟩ <;> simp at hr
  | stored hlt _ hle _ ih =>
    have := ih (fun r hr => hh r (List.mem_of_mem_tail hr)) (by omega)
    rw [Nat.max_eq_right hle] at this; rw [Nat.max_eq_right (Nat.le_of_lt hlt)]; exact this

/-- the running maximum over an ascending list ends at its last element -/
theorem foldl_max_asc {ps : List Nat} (hasc : ps.Pairwise (· < ·)) (a : Nat) :
    ps.foldl max a = max a (ps.getLast?.getD a) := by
  induction ps generalizing a with
  | nil => exact (Nat.max_self a).symm
  | cons p ps ih =>
    have ⟨hp, hasc⟩ := List.pairwise_cons.1 hasc
    rw [List.foldl_cons, ih hasc, List.getLast?_cons, Option.getD_some]
    cases hl : ps.getLast? with
    | none => exact Nat.max_self _
    | some q =>
      exact (Nat.max_assoc ..).trans (congrArg _ (Nat.max_eq_right (Nat.le_of_lt (hp q (List.mem_of_getLast? hl)))))

/-- with an honest getter one run of the loop works off the pending heads in whatever order they stand: every head
    above the store head is fetched up to and stored, so the store head ends at the highest of them -/
theorem processPending_honest (ps : List Nat) (head : Nat) (sc : List Resp) (hh : Honest sc) :
    ∃ sc', Honest sc' ∧ processPending ps head sc = (ps.foldl max head, false, sc', []) := by
  fun_induction processPending ps head sc with
  | case1 => exact ⟨_, hh, rfl⟩
  | case2 p ps head sc hle ih => rw [List.foldl_cons, Nat.max_eq_left hle]; exact ih hh
  | case3 p ps head sc hlt r hfail =>
    rw [(c07_request_reaches_target _ _ _ sc hh (Nat.le_refl _)).2.1] at hfail; cases hfail
  | case4 p ps head sc hlt r hok ih =>
    rw [List.foldl_cons, Nat.max_eq_right (Nat.le_of_lt (Nat.lt_of_not_le hlt))]
    exact ih (c07_request_reaches_target _ _ _ sc hh (Nat.le_refl _)).2.2

/-- heads learned in any pattern (adjacent, skipping, leaving gaps in the pending set) are all synced
    by one run of the loop when the getter is honest: the store head reaches the newest target,
    nothing stays pending, State reports no error -/
theorem c07_process_reaches_target (ps : List Nat) (head : Nat) (sc : List Resp) (hh : Honest sc)
    (hasc : ps.Pairwise (· < ·)) :
    let r := processPending ps head sc
    r.2.1 = false ∧ r.2.2.2 = [] ∧ r.1 = max head (ps.getLast?.getD head) ∧ Honest r.2.2.1 := by
  obtain ⟨sc', hs, e⟩ := processPending_honest ps head sc hh
  rw [e]; exact ⟨rfl, rfl, foldl_max_asc hasc head, hs⟩

/-- a getter error only aborts the current attempt: the store head does not move back (nothing partial
    is lost), State reports the error, and the pending heads are kept for the next attempt -/
theorem c07_error_keeps_progress (ps : List Nat) (head : Nat) (sc : List Resp) :
    head ≤ (processPending ps head sc).1 ∧
      ((processPending ps head sc).2.1 = true → (processPending ps head sc).2.2.2 ≠ []) := by
  fun_induction processPending ps head sc with
  | case1 => exact ⟨Nat.le_refl _, nofun⟩
  | case2 _ _ _ _ _ ih => exact ih
  | case3 p _ head sc => exact ⟨(request_bounds _ _ _ sc (by omega)).1, fun _ => nofun⟩
  | case4 _ _ _ _ _ _ _ ih => exact ⟨by omega, ih.2⟩

theorem target_eq (s : SM) : s.target = s.pending.getLast?.getD s.head := by
  unfold SM.target; cases s.pending.getLast? <;> rfl

/-- … and the next run (triggered by the next learned head) resumes from the store head and completes -/
theorem c07_resume_completes (s : SM) (hh : Honest s.script) (hasc : s.pending.Pairwise (· < ·)) (hne : s.pending ≠ []) :
    s.syncRun.err = false ∧ s.syncRun.pending = [] ∧ s.syncRun.head = max s.head s.target := by
  have := c07_process_reaches_target s.pending s.head s.script hh hasc
  rw [target_eq]
  fun_cases SM.syncRun s with
  | case1 hp => exact absurd hp hne
  | case2 => exact ⟨this.1, this.2.1, this.2.2.1⟩

example : (({ head := 10, script := [.pfx 3, .err, .pfx 1] } : SM).gossip (.valid 40)).1.head = 13 := by decide
example : ((({ head := 10, script := [.pfx 3, .err, .pfx 1] } : SM).gossip (.valid 40)).1.gossip (.valid 41)).1
    = { head := 41, pending := [], err := false, script := [] } := by decide

end GoHeader.C07

/-! ### the hand-over between `setLocalHead` and the sync loop, for ALL interleavings -/
namespace GoHeader.C07
open GoHeader.SyncTrigger

/-- every pending head above the store head is still going to be looked at -/
def Inv (s : St) : Prop :=
  ∀ x ∈ s.pend, x > s.sh →
    s.trig = true ∨ .fire ∈ s.gs ∨ s.l = .read ∨ (∃ to, (s.l = .sync to ∨ s.l = .clean to) ∧ x ≤ to)

theorem le_maxOf {x : Nat} {xs : List Nat} (h : x ∈ xs) : x ≤ maxOf xs := by
  induction h with
  | head => exact Nat.le_max_left ..
  | tail _ _ ih => exact Nat.le_trans ih (Nat.le_max_right ..)

theorem mem_set_of_ne {α} {l : List α} {a : α} {i : Nat} (h : a ∈ l) (hi : l[i]? ≠ some a) (b : α) : a ∈ l.set i b := by
  obtain ⟨j, hj⟩ := List.mem_iff_getElem?.1 h
  exact List.mem_iff_getElem?.2 ⟨j, by rw [List.getElem?_set_ne (by rintro rfl; exact hi hj), hj]⟩

theorem inv_stepG (s : St) (i x : Nat) (h : Inv s) : Inv (stepG s i x) := by
  fun_cases stepG s i x with
  | case1 | case3 => exact h  -- no such setter, or a head that is not above the store head
  | case2 hi =>  -- idle → `add x`: nothing becomes pending yet, and a `fire` elsewhere stays
    exact fun y hy hgt => (h y hy hgt).imp_right (Or.imp_left fun a => mem_set_of_ne a (by rw [hi]; nofun) _)
  | case4 y hi => exact fun _ _ _ => .inr (.inl (List.mem_set (List.getElem?_eq_some_iff.1 hi).1 _))  -- added: now at `fire`
  | case5 => exact fun _ _ _ => .inl rfl  -- fired: the trigger is set

theorem inv_stepL (s : St) (h : Inv s) : Inv (stepL s) := by
  fun_cases stepL s with
  | case1 => exact fun _ _ _ => .inr (.inr (.inl rfl))  -- idle, trigger consumed: now at `read`
  | case2 => exact h  -- idle, no trigger
  | case3 => exact fun x hx _ => .inr (.inr (.inr ⟨_, .inl rfl, le_maxOf hx⟩))  -- read: the target is the highest pending head
  | case4 _ hm => exact fun x hx hgt => absurd (Nat.lt_of_lt_of_le hgt (le_maxOf hx)) hm  -- read: nothing above the store head
  -- syncing up to `to`, then cleaning: a head above `to` is not covered by the loop, so a trigger is on its way
  | case5 to hl =>
    intro x hx hgt
    have hgt := Nat.max_lt.1 hgt
    refine (h x hx hgt.1).imp_right (Or.imp_right fun a => ?_)
    rw [hl] at a
    rcases a with a | ⟨t, a | a, b⟩ <;> cases a
    exact absurd b (Nat.not_le.2 hgt.2)
  | case6 to hl =>
    intro x hx hgt
    have hx := List.mem_filter.1 hx
    refine (h x hx.1 hgt).imp_right (Or.imp_right fun a => ?_)
    rw [hl] at a
    rcases a with a | ⟨t, a | a, b⟩ <;> cases a
    exact absurd b (Nat.not_le.2 (of_decide_eq_true hx.2))

theorem inv_run (sh n : Nat) (evs : List Ev) : Inv (run sh n evs) :=
  List.foldlRecOn evs step nofun fun s hs e _ => by
    cases e with
    | g i x => exact inv_stepG s i x hs
    | l => exact inv_stepL s hs

/-- **no lost trigger**: in every reachable QUIESCENT state (loop idle, channel empty, no setter between its
    `pending.Add` and its `wantSync`) nothing above the store head is pending: every head that was handed to
    `setLocalHead` — also while a sync was running — has been synced. -/
theorem c07_no_lost_trigger (sh n : Nat) (evs : List Ev)
    (hl : (run sh n evs).l = .idle) (ht : (run sh n evs).trig = false) (hg : .fire ∉ (run sh n evs).gs) :
    ∀ x ∈ (run sh n evs).pend, x ≤ (run sh n evs).sh := by
  intro x hx
  refine Nat.le_of_not_lt fun hgt => ?_
  rcases inv_run sh n evs x hx hgt with a | a | a | ⟨t, a, _⟩
  · rw [ht] at a; cases a
  · exact hg a
  · rw [hl] at a; cases a
  · rw [hl] at a; rcases a with a | a <;> cases a

/-- non-vacuity: two heads, the second learned while the first sync is running; quiescent at the end, store at 25 -/
example : (run 10 1 [.g 0 20, .g 0 20, .g 0 20, .l, .l, .g 0 25, .g 0 25, .l, .g 0 25, .l, .l, .l, .l, .l]).sh = 25 := by decide

end GoHeader.C07
