/-
  C04 — Store is a gap-free chain Tail..Head with consistent height and hash lookups.

  Statements are about `Store.Seq` (tied to /repo/store by the op-sequence correspondence, see
  DESIGN.md §4 C04).  `c04_inv` is the invariant for EVERY operation history and every batch size;
  the other theorems read the clauses of the property off the invariant.  Caches do not occur: the
  model is cache-transparent (every lookup goes to pending ∪ datastore), so the theorems hold for all
  cache sizes provided the implementation's caches stay coherent — which the correspondence checks
  with eviction-sized caches.
-/
import GoHeader.Lemmas.Store
namespace GoHeader.C04
open GoHeader GoHeader.Store

/-- C04: the store invariant holds after any history of Append (any order, gaps, repeats), Sync,
    DeleteRange, restarts and handler registrations, for every batch size. -/
theorem c04_inv (batch : Nat) (ops : List Op) : Inv (St.run batch ops) := (good_run batch ops).1

/-- Tail ≤ Head, and both ends are set or unset together. -/
theorem c04_ends (batch : Nat) (ops : List Op) :
    let s := St.run batch ops
    (s.head = none ↔ s.tail = none) ∧ ∀ hd tl, s.head = some hd → s.tail = some tl → tl ≤ hd := by
  intro s
  have h := c04_inv batch ops
  exact ⟨h.1, fun hd tl eh et => (h.2.2 hd tl eh et).1⟩

/-- every stored header is readable no matter where it sits (write batch or datastore). -/
theorem c04_present_readable (s : St) (h : Nat) (h0 : 0 < h) (hp : s.present h) :
    s.getByHeight h = .found ∧ s.byHash h = true :=
  ⟨(getByHeight_found_iff s h).mpr ⟨h0, lookup_of_present s h hp⟩, byHash_of_present s h hp⟩

/-- HasAt agrees exactly with the range [Tail, Head]. -/
theorem c04_hasAt_iff (s : St) (hd tl h : Nat) (eh : s.head = some hd) (et : s.tail = some tl) :
    s.hasAt h = true ↔ (h ≠ 0 ∧ tl ≤ h ∧ h ≤ hd) := by
  unfold St.hasAt; simp [eh, et, and_assoc]

theorem c04_hasAt_empty (s : St) (h : Nat) (eh : s.head = none) : s.hasAt h = false := by
  unfold St.hasAt; simp [eh]

/-- every height in [Tail, Head] is returned by GetByHeight, Get(hash), Has and HasAt. -/
theorem c04_range_readable (s : St) (hi : Inv s) (hd tl h : Nat) (eh : s.head = some hd) (et : s.tail = some tl)
    (h0 : 0 < h) (h1 : tl ≤ h) (h2 : h ≤ hd) :
    s.getByHeight h = .found ∧ s.byHash h = true ∧ s.hasAt h = true :=
  have hr := c04_present_readable s h h0 ((hi.2.2 hd tl eh et).2.1 h h1 h2)
  ⟨hr.1, hr.2, (c04_hasAt_iff s hd tl h eh et).mpr ⟨Nat.ne_of_gt h0, h1, h2⟩⟩

/-- Height() equals Head().Height(). -/
theorem c04_height_eq_head (s : St) (hi : Inv s) (hd : Nat) (eh : s.head = some hd) : s.hs = hd :=
  have ⟨_, _, _, _, _, hhs⟩ := hi.ends eh
  hhs

/-- Head is the top of the contiguous run: the next height is not retrievable (Head does not move
    past a gap), … -/
theorem c04_head_is_top (s : St) (hi : Inv s) (hd : Nat) (eh : s.head = some hd) :
    s.getByHeight (hd + 1) ≠ .found := fun hf => by
  rw [getByHeight_found_iff, hi.top eh] at hf; cases hf.2

/-- … and it advances by itself once a gap is filled: no stored run extends beyond Head. -/
theorem c04_no_run_beyond_head (s : St) (hi : Inv s) (hd k : Nat) (eh : s.head = some hd)
    (hrun : ∀ h, hd < h → h ≤ k → s.present h) : k ≤ hd :=
  have ⟨_, _, _, _, htop, _⟩ := hi.ends eh
  Nat.le_of_not_lt fun hk => htop (hrun (hd + 1) (Nat.lt_succ_self _) hk)

/-- GetRange succeeds only when every requested height is stored (it returns exactly those
    consecutive heights, walking back by previous-hash from `b-1`), and otherwise fails. -/
theorem c04_getRange_exact (s : St) (a b : Nat) (h : s.getRange a b = true) :
    a < b ∧ s.getByHeight (b - 1) = .found ∧ ∀ k, a ≤ k → k < b - 1 → (k ≠ 0 ∧ s.byHash k = true) := by
  unfold St.getRange at h
  simp only [Bool.and_eq_true, decide_eq_true_eq, beq_iff_eq, List.all_eq_true, List.mem_range'_1] at h
  obtain ⟨⟨h1, h2⟩, h3⟩ := h
  refine ⟨h1, h2, fun k x y => ?_⟩
  simpa using h3 k ⟨x, (Nat.add_sub_cancel' (Nat.le_trans x (Nat.le_of_lt y))).symm ▸ y⟩

-- holds of every state, reachable or not (`present_sync`, `mentions_append`): `hg` is not used
/-- an appended header is stored once the write queue has been drained (Sync) … -/
theorem c04_append_sync_present (s : St) (hg : Good s) (hs : List Nat) (h : Nat) (hh : h ∈ hs) :
    ((s.step (.append hs)).step .sync).present h :=
  (present_sync _ h).mpr ((mentions_append s hs h).mpr (Or.inr hh))

/-- … and stays stored under every later operation except a DeleteRange that covers it. -/
theorem c04_stored_stays (s : St) (hg : Good s) (op : Op) (k : Nat) (hm : s.mentions k)
    (hnd : ∀ a b, op = .delete a b → ¬ (a ≤ k ∧ k < b)) : (s.step op).mentions k := by
  cases op with
  | append hs => exact (mentions_append s hs k).mpr (Or.inl hm)
  | sync => exact (mentions_sync s k).mpr hm
  | delete a b =>
    obtain ⟨stop, hle, hp⟩ := mentions_deleteRange s hg a b
    exact (hp k).mpr ⟨hm, fun hc => hnd a b rfl ⟨hc.1, Nat.lt_of_lt_of_le hc.2 hle⟩⟩
  | restart => exact (mentions_restart s k).mpr hm
  | onDelete f => exact hm

/-! non-vacuity: a concrete history with a gap that gets filled, a repeat, a tail-side delete and a restart -/
example : let s := St.run 2 [.append [1, 2], .append [5], .sync, .append [4, 3], .append [2], .sync,
                             .delete 1 3, .restart]
          s.head = some 5 ∧ s.tail = some 3 ∧ s.hs = 5 ∧ s.getByHeight 4 = .found ∧ s.getByHeight 2 = .notFound := by
  decide

end GoHeader.C04
