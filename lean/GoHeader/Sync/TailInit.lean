/-
  The first tail of an empty store under concurrent `Syncer.Head()` callers (finding F35).

  All callers share ONE head request (single flight, `Sync.Head`); afterwards each of them calls `subjectiveTail`, which
  is guarded by a try-lock: a caller that finds the lock taken skips the tail renewal - fine when a tail exists, but on an
  empty store there is nothing to go on with: that caller found the store still empty and failed ("store is empty"),
  although the shared request had brought a good head. Since the repair such a caller waits for the attempt in progress.
-/
namespace GoHeader.TailInit

structure St where
  tail    : Bool := false              -- the store has a tail
  holder  : Option Nat := none         -- the caller fetching the tail right now (holds the lock)
  waiting : List Nat := []             -- callers blocked on the lock (repaired code only)
  results : List (Nat × Bool) := []    -- (caller, succeeded)
deriving Repr

inductive Ev
  | arrive (i : Nat)      -- caller i reaches subjectiveTail with the shared head
  | finish (ok : Bool)    -- the fetch in progress ends (the getter served the tail header, or failed)
deriving DecidableEq, Repr

/-- `wait` = the repaired code: with no tail at all, wait for the attempt in progress instead of skipping -/
def step (wait : Bool) (s : St) : Ev → St
  | .arrive i =>
    match s.holder with
    | none => if s.tail then { s with results := s.results ++ [(i, true)] } else { s with holder := some i }
    | some _ =>
      if s.tail then { s with results := s.results ++ [(i, true)] }       -- skip the renewal: the tail is there
      else if wait then { s with waiting := s.waiting ++ [i] }
      else { s with results := s.results ++ [(i, false)] }               -- went on with no tail: "store is empty"
  | .finish ok =>
    match s.holder with
    | none => s
    | some h =>
      let t := s.tail || ok
      let rs := s.results ++ [(h, ok)]
      if t then { tail := true, holder := none, waiting := [], results := rs ++ s.waiting.map (·, true) }
      else match s.waiting with
        | [] => { s with tail := false, holder := none, results := rs }
        | w :: ws => { tail := false, holder := some w, waiting := ws, results := rs }   -- the next one fetches itself

def run (wait : Bool) (s : St) (evs : List Ev) : St := evs.foldl (step wait) s

def AllOk (s : St) : Prop := ∀ p ∈ s.results, p.2 = true

theorem step_allok (s : St) (e : Ev) (h : AllOk s) (he : e ≠ .finish false) : AllOk (step true s e) := by
  have one : ∀ i, AllOk { s with results := s.results ++ [(i, true)] } := fun i =>
    List.forall_mem_append.2 ⟨h, List.forall_mem_singleton.2 rfl⟩
  match e with
  | .arrive i =>
    unfold step
    cases s.holder <;> by_cases ht : s.tail = true <;> simp only [ht, if_true]
    · exact one i
    · exact h
    · exact one i
    · exact h
  | .finish true =>
    unfold step
    cases s.holder with
    | none => exact h
    | some c =>
      simp only [Bool.or_true, if_true]
      exact List.forall_mem_append.2 ⟨one c, List.forall_mem_map.2 fun _ _ => rfl⟩
  | .finish false => exact absurd rfl he

/-- as long as no tail fetch fails, NO caller fails - however the callers and the fetch interleave -/
theorem run_allok (evs : List Ev) (s : St) (h : AllOk s) (he : ∀ e ∈ evs, e ≠ .finish false) : AllOk (run true s evs) :=
  List.foldlRecOn evs (step true) h fun s hs e hm => step_allok s e hs (he e hm)

end GoHeader.TailInit
