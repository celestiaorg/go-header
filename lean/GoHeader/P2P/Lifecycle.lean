/-
  Life cycle of `p2p.Subscriber` (Start / Stop / Subscribe / Cancel) as far as the gossip gate of C11 depends on it:
  the topic validator (`verifyMessage`) has to be registered for as long as the topic is joined - otherwise whatever
  arrives is delivered to the open Subscriptions and relayed without having been decoded, validated or verified.

  pubsub facts used: RegisterTopicValidator fails on a duplicate; Join fails when the topic is joined already;
  Topic.Close fails while Subscriptions are open and is a no-op on a closed topic; UnregisterTopicValidator fails
  when there is none; Subscribe fails on a closed topic.
-/
namespace GoHeader.Lifecycle

structure St where
  joined    : Bool := false   -- the topic is joined (messages flow)
  validator : Bool := false   -- verifyMessage is registered as the topic validator
  subs      : Nat := 0        -- open Subscriptions
deriving DecidableEq, Repr

inductive Op | start | stop | subscribe | cancel
deriving DecidableEq, Repr

/-- `keepValidator` = the repaired Stop: when closing the topic fails, the validator stays. Result: new state, error? -/
def step (keepValidator : Bool) (s : St) : Op → St × Bool
  | .start =>
    if s.validator then (s, true)                                   -- duplicate validator
    else if s.joined then ({ s with validator := true }, true)      -- registered, then Join fails
    else ({ s with validator := true, joined := true }, false)
  | .stop =>
    if s.joined && s.subs > 0 then
      -- Topic.Close fails: the topic stays joined
      if keepValidator then (s, true)
      else ({ s with validator := false }, true)
    else
      ({ s with joined := false, validator := false }, !s.validator)  -- Unregister fails when there is none
  | .subscribe => if s.joined then ({ s with subs := s.subs + 1 }, false) else (s, true)
  | .cancel => ({ s with subs := s.subs - 1 }, false)

def run (k : Bool) (s : St) (ops : List Op) : St := ops.foldl (fun s o => (step k s o).1) s

/-- the gate is in place whenever messages can flow -/
def Inv (s : St) : Prop := s.joined = true → s.validator = true

theorem step_inv (s : St) (o : Op) (h : Inv s) : Inv (step true s o).1 := by
  fun_cases step true s o
  case case2 | case3 => exact fun _ => rfl    -- Start registers the validator
  case case5 hk => exact absurd rfl hk        -- the branch of the Stop before the repair
  case case6 => exact nofun                   -- Stop closes the topic
  all_goals exact h                           -- every other branch leaves the gate as it was

/-- with the repaired Stop: after ANY sequence of life-cycle calls, a joined topic has its validator -/
theorem run_inv (ops : List Op) (s : St) (h : Inv s) : Inv (run true s ops) :=
  List.foldlRecOn (motive := Inv) ops _ h fun s hs o _ => step_inv s o hs

end GoHeader.Lifecycle
