/-
  Peer scores of the range session (p2p/peer_stats.go), at the granularity that matters for the ordering of the
  peer queue: is the float32 score a finite number, +Inf, or NaN?  (A NaN is neither greater nor smaller than
  anything: `peerStats.Less` answers false both ways and the heap loses its order - finding F33.)

  Float facts used (IEEE 754, amounts are byte counts, far below the float32 range):
    finite / positive-finite = finite        finite / 0 = +Inf (amount > 0)
    (finite + finite) / 2 = finite           (x + Inf) / 2 = Inf for x finite or Inf
    x - x/100*20 : finite for finite x       Inf - Inf = NaN          anything with NaN = NaN
-/
namespace GoHeader.Score

inductive Cls | fin | inf | nan
deriving DecidableEq, Repr, Inhabited

/-- one outcome booked on a peer by `session.doRequest`: a success that took `ms` WHOLE milliseconds
    (`duration.Milliseconds()`, 0 for anything faster than a millisecond), or a NOT_FOUND / empty answer -/
inductive Ev | ok (ms : Nat) | fail
deriving DecidableEq, Repr

/-- the class of `float32(amount) / float32(ms)` guarded by `divide : Bool` -/
def speed (divide : Bool) (ms : Nat) : Cls := if divide && ms == 0 then .inf else .fin

/-- `(a + b) / 2` on classes -/
def avg : Cls → Cls → Cls
  | .nan, _ | _, .nan => .nan
  | .inf, _ | _, .inf => .inf
  | .fin, .fin => .fin

/-- `updateStats`; `zero` = the stored score is exactly 0.0 (the value is then replaced, not averaged).
    `guardMs` = the repaired guard (`if ms := duration.Milliseconds(); ms != 0`): no division when ms = 0;
    the code before divided whenever `duration != 0`, i.e. also by a millisecond count of 0. -/
def update (guardMs : Bool) (zero : Bool) (c : Cls) (ms : Nat) : Cls :=
  let sp := speed (!(guardMs && ms == 0)) ms
  if zero then sp else avg c sp

/-- `decreaseScore`: `p -= p / 100 * 20` -/
def decrease : Cls → Cls
  | .fin => .fin
  | .inf => .nan      -- Inf - Inf
  | .nan => .nan

def step (guardMs : Bool) (c : Cls) : Ev → Cls
  | .ok ms => update guardMs false c ms
  | .fail => decrease c

def run (guardMs : Bool) (c : Cls) (evs : List Ev) : Cls := evs.foldl (step guardMs) c

/-- a class that no single outcome changes is kept by every sequence of outcomes -/
theorem run_fixed {g : Bool} {c : Cls} (h : ∀ e, step g c e = c) (evs : List Ev) : run g c evs = c :=
  List.foldlRecOn (motive := (· = c)) evs _ rfl fun _ hb e _ => hb ▸ h e

/-- with the repaired guard the booked speed is a finite number: a score of exactly 0 (first booking, the value is
    replaced) becomes finite -/
theorem update_fixed_zero (c : Cls) (ms : Nat) : update true true c ms = .fin := by
  unfold update speed; cases ms == 0 <;> rfl

/-- ... and a finite score stays finite: a later booking averages it with that same speed -/
theorem step_fixed_fin : ∀ e, step true .fin e = .fin
  | .ok ms => congrArg (avg .fin) (update_fixed_zero .fin ms)
  | .fail => rfl

/-- before the repair: one sub-millisecond success and one NOT_FOUND make the score NaN, for good -/
theorem old_reaches_nan : run false .fin [.ok 0, .fail] = .nan := by decide

theorem nan_absorbing (g : Bool) (evs : List Ev) : run g .nan evs = .nan :=
  run_fixed (fun e => by cases e <;> rfl) evs

end GoHeader.Score
