/-
  Lemmas.StoreCalls — the OnDelete handler call log of `Store.Seq.delLoop`.
-/
import GoHeader.Lemmas.Store
namespace GoHeader.Store

theorem runHandlers_length (s : St) (h : Nat) (hs : List Handler) (i : Nat) :
    (runHandlers s h hs i).1.length = hs.length := by
  fun_induction runHandlers s h hs i with
  | case1 => rfl
  | case2 => rfl
  | case3 _ _ _ _ _ _ _ ih => exact congrArg (· + 1) ih

/-- every logged call is for height `h` and carries the readability of `h` at that moment -/
theorem runHandlers_calls (s : St) (h : Nat) (hs : List Handler) (i : Nat) :
    ∀ c ∈ (runHandlers s h hs i).2.1, c.height = h ∧ c.readable = (s.getByHeight h == .found) := by
  fun_induction runHandlers s h hs i with
  | case1 => nofun
  | case2 => intro c hc; cases List.mem_singleton.mp hc; exact ⟨rfl, rfl⟩
  | case3 _ _ _ _ _ _ _ ih =>
    intro c hc
    rcases List.mem_cons.mp hc with rfl | hc
    · exact ⟨rfl, rfl⟩
    · exact ih c hc

/-- when every handler returned nil, the log holds exactly one call per handler, in registration order -/
theorem runHandlers_ok_log (s : St) (h : Nat) (hs : List Handler) (i : Nat)
    (hok : (runHandlers s h hs i).2.2 = true) :
    (runHandlers s h hs i).2.1.map (·.handler) = List.range' i hs.length := by
  fun_induction runHandlers s h hs i with
  | case1 => rfl
  | case2 => cases hok
  | case3 _ _ _ _ _ _ _ ih => exact congrArg (List.cons _) (ih hok)

/-- a failing handler is the last one logged (no later handler runs for that header) -/
theorem runHandlers_fail_log (s : St) (h : Nat) (hs : List Handler) (i : Nat)
    (hf : (runHandlers s h hs i).2.2 = false) :
    ∃ j, j < hs.length ∧ (runHandlers s h hs i).2.1.map (·.handler) = List.range' i (j + 1) := by
  fun_induction runHandlers s h hs i with
  | case1 => cases hf
  | case2 => exact ⟨0, Nat.zero_lt_succ _, rfl⟩
  | case3 _ _ _ _ _ _ _ ih =>
    obtain ⟨j, hj, e⟩ := ih hf
    exact ⟨j + 1, Nat.succ_lt_succ hj, congrArg (List.cons _) e⟩

theorem found_of_stored (s : St) (hc : Coh s) (a : Nat) (h0 : 0 < a) (hin : a ∈ s.idx ∨ a ∈ s.pending) :
    s.getByHeight a = .found :=
  (getByHeight_found_iff s a).mpr
    ⟨h0, lookup_of_present s a (hin.elim (fun h => Or.inr ⟨h, (hc a).mp h⟩) Or.inl)⟩

/-- the handler calls for a stored height `a` of the range `[a, e)` are logged as made while `GetByHeight` still found it -/
theorem runHandlers_readable (s : St) (hc : Coh s) {a e : Nat} (hlt : a < e) (h0 : 0 < a) (hin : a ∈ s.idx ∨ a ∈ s.pending) :
    ∀ c ∈ (runHandlers s a s.handlers 0).2.1, a ≤ c.height ∧ c.height < e ∧ c.readable = true := fun c hcm => by
  obtain ⟨x, y⟩ := runHandlers_calls s a s.handlers 0 c hcm
  rw [x, y, found_of_stored s hc a h0 hin]; exact ⟨Nat.le_refl a, hlt, rfl⟩

/-- C14 core: every call `delLoop` adds to the log over `[a, e)` is for a height of the range and happened while
    that header was still readable through GetByHeight -/
theorem delLoop_calls (s : St) (hc : Coh s) (a n e : Nat) (he : a + n = e) (h0 : 0 < a) :
    ∃ added, (s.delLoop a n).1.calls = s.calls ++ added ∧
      ∀ c ∈ added, a ≤ c.height ∧ c.height < e ∧ c.readable = true := by
  fun_induction St.delLoop s a n with
  | case1 s a => exact ⟨[], (List.append_nil _).symm, nofun⟩
  | case2 s a n hin _ ih =>
    obtain ⟨added, e', hall⟩ := ih (coh_delOne _ a hc) (succ_add_of_add_succ he) (Nat.succ_pos a)
    refine ⟨(runHandlers s a s.handlers 0).2.1 ++ added, by rw [e', ← List.append_assoc]; rfl, fun c hcm => ?_⟩
    rcases List.mem_append.mp hcm with hcm | hcm
    · exact runHandlers_readable s hc (he ▸ Nat.lt_add_of_pos_right n.succ_pos) h0 hin c hcm
    · exact ⟨Nat.le_of_succ_le (hall c hcm).1, (hall c hcm).2⟩
  | case3 s a n hin _ =>
    exact ⟨_, rfl, runHandlers_readable s hc (he ▸ Nat.lt_add_of_pos_right n.succ_pos) h0 hin⟩
  | case4 s a n _ ih =>
    obtain ⟨added, e', hall⟩ := ih hc (succ_add_of_add_succ he) (Nat.succ_pos a)
    exact ⟨added, e', fun c hcm => ⟨Nat.le_of_succ_le (hall c hcm).1, (hall c hcm).2⟩⟩

/-- the (height, handler) pairs a fully successful delete logs: every stored height of the range, in
    ascending order, each with every handler once in registration order -/
def expectedCalls (stored : Nat → Bool) (nh : Nat) (a : Nat) : Nat → List (Nat × Nat)
  | 0 => []
  | n+1 => (if stored a then (List.range' 0 nh).map (fun i => (a, i)) else []) ++ expectedCalls stored nh (a+1) n

/-- … in closed form -/
theorem expectedCalls_eq (stored : Nat → Bool) (nh a n : Nat) :
    expectedCalls stored nh a n =
      (List.range' a n).flatMap fun h => if stored h then (List.range' 0 nh).map (h, ·) else [] := by
  induction n generalizing a with
  | zero => rfl
  | succ m ih => rw [expectedCalls, ih, List.range'_succ, List.flatMap_cons]

theorem expectedCalls_congr (f g : Nat → Bool) (nh : Nat) (n a : Nat) (h : ∀ k, a ≤ k → f k = g k) :
    expectedCalls f nh a n = expectedCalls g nh a n := by
  induction n generalizing a with
  | zero => rfl
  | succ k ih =>
    simp only [expectedCalls]
    rw [h a (Nat.le_refl _), ih (a + 1) (fun k hk => h k (Nat.le_of_succ_le hk))]

theorem delLoop_ok_log (s : St) (a n : Nat) (hok : (s.delLoop a n).2 = none) :
    ∃ added, (s.delLoop a n).1.calls = s.calls ++ added ∧
      added.map (fun c => (c.height, c.handler)) =
        expectedCalls (fun h => decide (h ∈ s.idx ∨ h ∈ s.pending)) s.handlers.length a n ∧
      (s.delLoop a n).1.handlers.length = s.handlers.length := by
  fun_induction St.delLoop s a n with
  | case1 s a => exact ⟨[], (List.append_nil _).symm, rfl, rfl⟩
  | case2 s a n hin hhok ih =>
    obtain ⟨added, e, hexp, hlen⟩ := ih hok
    have hl : ((s.afterHandlers a).delOne a).handlers.length = s.handlers.length := runHandlers_length ..
    refine ⟨(runHandlers s a s.handlers 0).2.1 ++ added, by rw [e, ← List.append_assoc]; rfl, ?_, hlen.trans hl⟩
    -- the calls for `a` itself; below `a + 1` the deletion of `a` does not change what is stored
    have hpair : (runHandlers s a s.handlers 0).2.1.map (fun c => (c.height, c.handler))
        = (List.range' 0 s.handlers.length).map (fun i => (a, i)) := by
      rw [← runHandlers_ok_log s a s.handlers 0 hhok, List.map_map]
      exact List.map_congr_left fun c hcm => by rw [Function.comp, (runHandlers_calls s a s.handlers 0 c hcm).1]
    rw [List.map_append, hpair, hexp, hl, expectedCalls, if_pos (decide_eq_true hin)]
    refine congrArg _ (expectedCalls_congr _ _ _ _ _ fun h hh => ?_)
    simp [St.delOne, St.afterHandlers, Nat.ne_of_gt hh]
  | case3 => cases hok
  | case4 s a n hnin ih =>
    obtain ⟨added, e, hexp, hlen⟩ := ih hok
    exact ⟨added, e, by rw [hexp, expectedCalls, if_neg (by simpa using hnin)]; rfl, hlen⟩

end GoHeader.Store
