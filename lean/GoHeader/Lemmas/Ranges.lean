/-
  Lemmas for GoHeader.Sync.Ranges.

  A contiguous range is a `List.range'`, and `rangeAmount` is `min len (e + 1 - start)`: it cuts the range exactly at `e`.
  A list made of a part up to `to` followed by a part above `to` is split there by `filter`: that is `Get` / `Remove` on one
  range, and the cache loop on all of them.  `First` and `Remove` work at the front of the list of ranges and `Add` at its back,
  so the invariant is taken apart both as `r :: rest` and as `pre ++ [r]`.  `Add` is its read followed by its apply; it keeps the
  invariant whenever the head it read is still the head, or no head is left, when it applies.
-/
import GoHeader.Sync.Ranges
namespace GoHeader.Ranges

/-! ### a list cut at a threshold -/

theorem filter_of_cut {as bs l : List Nat} {to : Nat} (e : as ++ bs = l) (ha : ∀ x ∈ as, x ≤ to) (hb : ∀ x ∈ bs, to < x) :
    as = l.filter (· ≤ to) ∧ bs = l.filter (· > to) := by
  subst e
  simp only [List.filter_append]
  rw [List.filter_eq_self.2 fun x hx => decide_eq_true (ha x hx), List.filter_eq_self.2 fun x hx => decide_eq_true (hb x hx),
    List.filter_eq_nil_iff.2 fun x hx => by simpa using hb x hx, List.filter_eq_nil_iff.2 fun x hx => by simpa using ha x hx]
  exact ⟨(List.append_nil _).symm, rfl⟩

/-! ### one range -/

theorem amt_eq_min (s n e : Nat) : amt s n e = min n (e + 1 - s) := by
  fun_cases amt s n e with
  | case1 h => rw [Nat.sub_eq_zero_of_le h, Nat.min_zero]
  | case2 h1 h2 =>
    rw [Nat.succ_sub (Nat.le_of_not_lt h1)]
    exact (Nat.min_eq_right (Nat.sub_lt_left_of_lt_add (Nat.le_of_not_lt h1) h2)).symm
  | case3 h1 h2 => exact (Nat.min_eq_left (by omega)).symm

theorem amt_le (s n e : Nat) : amt s n e ≤ n := by rw [amt_eq_min]; exact Nat.min_le_left ..

theorem contig_iff : ∀ {s : Nat} {xs : List Nat}, Contig s xs ↔ xs = List.range' s xs.length
  | _, [] => by simp [Contig]
  | s, y :: ys => by
    simp only [Contig, List.length_cons, List.range'_succ, List.cons.injEq, contig_iff (s := s + 1)]

theorem contig_range' (s n : Nat) : Contig s (List.range' s n) := contig_iff.2 (by rw [List.length_range'])

theorem contig_head : ∀ {s : Nat} {xs : List Nat}, Contig s xs → xs.headD s = s
  | _, [], _ => rfl
  | _, _ :: _, h => h.1

theorem contig_headD {s d : Nat} : ∀ {xs : List Nat}, Contig s xs → Contig (xs.headD d) xs
  | [], _ => trivial
  | _ :: _, ⟨rfl, h⟩ => ⟨rfl, h⟩

theorem contig_pairwise {s : Nat} {xs : List Nat} (h : Contig s xs) : xs.Pairwise (· < ·) :=
  contig_iff.1 h ▸ List.pairwise_lt_range' ..

theorem contig_concat : ∀ {s hd : Nat} {xs : List Nat}, Contig s xs → xs.getLast? = some hd → Contig s (xs ++ [hd + 1])
  | _, _, [_], ⟨rfl, _⟩, rfl => ⟨rfl, rfl, trivial⟩
  | _, _, _ :: _ :: _, ⟨rfl, h⟩, hl => ⟨rfl, contig_concat h (List.getLast?_cons_cons ▸ hl)⟩

theorem contig_drop {s : Nat} {xs : List Nat} (k : Nat) (h : Contig s xs) : Contig (s + k) (xs.drop k) := by
  rw [contig_iff.1 h, List.drop_range', Nat.mul_one]; exact contig_range' ..

/-- `rangeAmount(e)` cuts a contiguous range exactly at `e` -/
theorem contig_cut {s : Nat} {xs : List Nat} (e : Nat) (h : Contig s xs) :
    (∀ x ∈ xs.take (amt s xs.length e), x ≤ e) ∧ ∀ x ∈ xs.drop (amt s xs.length e), e < x := by
  rw [contig_iff.1 h, List.length_range', List.take_range'_of_length_ge (amt_le ..), List.drop_range']
  simp only [List.mem_range'_1, amt_eq_min]
  constructor <;> intro x hx <;> omega

theorem get_append_remove (r : Rng) (e : Nat) : get r e ++ (remove r e).hs = r.hs := List.take_append_drop ..

theorem get_remove_spec {r : Rng} (e : Nat) (h : r.WF) :
    get r e = r.hs.filter (· ≤ e) ∧ (remove r e).hs = r.hs.filter (· > e) :=
  filter_of_cut (get_append_remove r e) (contig_cut e h).1 (contig_cut e h).2

theorem get_spec {r : Rng} (e : Nat) (h : r.WF) : get r e = r.hs.filter (· ≤ e) := (get_remove_spec e h).1
theorem remove_spec {r : Rng} (e : Nat) (h : r.WF) : (remove r e).hs = r.hs.filter (· > e) := (get_remove_spec e h).2

theorem remove_wf {r : Rng} (e : Nat) (h : r.WF) : (remove r e).WF := contig_headD (contig_drop _ h)

theorem remove_subset (r : Rng) (e : Nat) : ∀ x ∈ (remove r e).hs, x ∈ r.hs := fun _ => List.mem_of_mem_drop

theorem get_remove_nil {r : Rng} (e : Nat) (h : r.WF) : get (remove r e) e = [] := by
  rw [get_spec e (remove_wf e h), remove_spec e h, List.filter_filter]
  exact List.filter_eq_nil_iff.2 fun x _ => by simp

/-! ### the invariant along the list of ranges -/

theorem inv_append {as bs : Ranges} :
    Inv (as ++ bs) ↔ Inv as ∧ Inv bs ∧ (∀ a ∈ as, ∀ b ∈ bs, Sep a b) ∧ ∀ a ∈ as, ∀ b ∈ bs, EP a b := by
  constructor
  · intro ⟨wf, sep, ep⟩
    rw [List.pairwise_append] at sep ep
    exact ⟨⟨fun r hr => wf r (List.mem_append_left _ hr), sep.1, ep.1⟩,
      ⟨fun r hr => wf r (List.mem_append_right _ hr), sep.2.1, ep.2.1⟩, sep.2.2, ep.2.2⟩
  · intro ⟨ha, hb, sep, ep⟩
    exact ⟨fun r hr => (List.mem_append.1 hr).elim (ha.wf r) (hb.wf r),
      List.pairwise_append.2 ⟨ha.sep, hb.sep, sep⟩, List.pairwise_append.2 ⟨ha.ep, hb.ep, ep⟩⟩

theorem inv_nil : Inv [] := ⟨nofun, .nil, .nil⟩

theorem inv_singleton {r : Rng} : Inv [r] ↔ r.WF :=
  ⟨fun h => h.wf r (List.mem_singleton_self r),
    fun h => ⟨fun _ ha => List.mem_singleton.1 ha ▸ h, List.pairwise_singleton .., List.pairwise_singleton ..⟩⟩

theorem inv_cons {r : Rng} {rest : Ranges} :
    Inv (r :: rest) ↔ r.WF ∧ Inv rest ∧ (∀ b ∈ rest, Sep r b) ∧ ∀ b ∈ rest, EP r b := by
  simpa only [List.singleton_append, inv_singleton, List.forall_mem_singleton] using inv_append (as := [r])

theorem inv_snoc {pre : Ranges} {r : Rng} :
    Inv (pre ++ [r]) ↔ Inv pre ∧ r.WF ∧ (∀ a ∈ pre, Sep a r) ∧ ∀ a ∈ pre, EP a r := by
  simpa only [inv_singleton, List.forall_mem_singleton] using inv_append (bs := [r])

theorem heights_cons (r : Rng) (rest : Ranges) : heights (r :: rest) = r.hs ++ heights rest := List.flatMap_cons
theorem heights_snoc (pre : Ranges) (r : Rng) : heights (pre ++ [r]) = heights pre ++ r.hs := by simp [heights]

theorem heights_sorted : ∀ {rs : Ranges}, Inv rs → (heights rs).Pairwise (· < ·)
  | [], _ => .nil
  | r :: rest, hi => by
    obtain ⟨wr, hrest, sep, _⟩ := inv_cons.1 hi
    rw [heights_cons, List.pairwise_append]
    refine ⟨contig_pairwise wr, heights_sorted hrest, fun x hx y hy => ?_⟩
    obtain ⟨b, hb, hyb⟩ := List.mem_flatMap.1 hy
    exact Nat.lt_of_succ_lt (sep b hb x hx y hyb)

/-! ### the last range: `Head`, `Add` -/

theorem snoc_cases (rs : Ranges) : rs = [] ∨ ∃ pre r, rs = pre ++ [r] := by
  simpa only [List.concat_eq_append] using List.eq_nil_or_concat rs

theorem headOf_snoc : ∀ (pre : Ranges) (r : Rng), headOf (pre ++ [r]) = r.hs.getLast?
  | [], _ => rfl
  | [_], _ => rfl
  | _ :: q :: pre, r => headOf_snoc (q :: pre) r

theorem appendLast_snoc (b : Bool) : ∀ (pre : Ranges) (r : Rng) (h : Nat),
    appendLast b (pre ++ [r]) h = pre ++ appendLast b [r] h
  | [], _, _ => rfl
  | [_], _, _ => rfl
  | p :: q :: pre, r, h => congrArg (p :: ·) (appendLast_snoc b (q :: pre) r h)

theorem appendLast_of_ne {b : Bool} {r : Rng} (h : Nat) (hne : r.hs ≠ []) : appendLast b [r] h = [{ r with hs := r.hs ++ [h] }] :=
  congrArg (fun x => [x]) (if_neg (by rw [Bool.and_eq_true, List.isEmpty_iff]; exact fun hc => hne hc.1))

theorem headOf_eq {rs : Ranges} (hi : Inv rs) : headOf rs = (heights rs).getLast? := by
  rcases snoc_cases rs with rfl | ⟨pre, r, rfl⟩
  · rfl
  · rw [headOf_snoc, heights_snoc, List.getLast?_append]
    cases hl : r.hs.getLast? with
    | some _ => rfl
    | none =>
      have hpre : heights pre = [] :=
        List.flatMap_eq_nil_iff.2 fun a ha => (inv_snoc.1 hi).2.2.2 a ha (List.getLast?_eq_none_iff.1 hl)
      rw [hpre]; rfl

theorem le_getLast {xs : List Nat} {hd : Nat} (hs : xs.Pairwise (· < ·)) (hl : xs.getLast? = some hd) : ∀ x ∈ xs, x ≤ hd := by
  obtain ⟨ys, rfl⟩ := List.getLast?_eq_some_iff.1 hl
  intro x hx
  rcases List.mem_append.1 hx with h | h
  · exact Nat.le_of_lt ((List.pairwise_append.1 hs).2.2 x h hd (List.mem_singleton_self hd))
  · exact Nat.le_of_eq (List.mem_singleton.1 h)

theorem addApply_addRead : ∀ (rs : Ranges) (h : Nat), addApply true rs (addRead rs h) h = add rs h
  | [], _ => rfl
  | [r], h => by
    unfold addRead headOf add
    cases hl : r.hs.getLast? with
    | none => rfl
    | some hd =>
      dsimp only
      by_cases h1 : hd ≥ h
      · rw [if_pos h1, if_pos h1]; rfl
      · rw [if_neg h1, if_neg h1]
        by_cases h2 : h = hd + 1
        · rw [if_pos h2, if_pos h2]; exact appendLast_of_ne h (List.ne_nil_of_mem (List.mem_of_getLast? hl))
        · rw [if_neg h2, if_neg h2]; rfl
  | r :: r' :: rest, h => by
    rw [add, ← addApply_addRead (r' :: rest) h]
    show addApply true (r :: r' :: rest) (addRead (r' :: rest) h) h = _
    cases addRead (r' :: rest) h <;> rfl

/-- under the invariant `Add(h)` carries out one of its three plans, and which one tells where `h` lies among the cached heights -/
theorem add_spec {rs : Ranges} (hi : Inv rs) (h : Nat) : ∃ plan, add rs h = addApply true rs plan h ∧
    match plan with
    | .drop => ∃ x ∈ heights rs, h ≤ x
    | .append => (∃ hd, headOf rs = some hd ∧ h = hd + 1) ∧ ∀ x ∈ heights rs, x < h
    | .fresh => ∀ x ∈ heights rs, x + 1 < h := by
  refine ⟨addRead rs h, (addApply_addRead rs h).symm, ?_⟩
  have hmax : ∀ hd, headOf rs = some hd → hd ∈ heights rs ∧ ∀ x ∈ heights rs, x ≤ hd := fun hd hh =>
    have hl := headOf_eq hi ▸ hh
    ⟨List.mem_of_getLast? hl, le_getLast (heights_sorted hi) hl⟩
  fun_cases addRead rs h with
  | case1 hh => rw [headOf_eq hi, List.getLast?_eq_none_iff] at hh; rw [hh]; nofun
  | case2 hd hh h1 => exact ⟨hd, (hmax hd hh).1, h1⟩
  | case3 hd hh _ h2 => exact ⟨⟨hd, hh, h2⟩, fun x hx => h2 ▸ Nat.lt_succ_of_le ((hmax hd hh).2 x hx)⟩
  | case4 hd hh h1 h2 => exact fun x hx => by have := (hmax hd hh).2 x hx; omega

theorem inv_fresh {rs : Ranges} {h : Nat} (hi : Inv rs) (hlt : ∀ x ∈ heights rs, x + 1 < h) : Inv (rs ++ [⟨h, [h]⟩]) :=
  inv_snoc.2 ⟨hi, ⟨rfl, trivial⟩, fun a ha x hx _ hy => List.mem_singleton.1 hy ▸ hlt x (List.mem_flatMap.2 ⟨a, ha, hx⟩),
    fun _ _ hne => nomatch hne⟩

theorem inv_appendLast {rs : Ranges} {h : Nat} (hi : Inv rs) (hh : ∀ hd, headOf rs = some hd → h = hd + 1) :
    Inv (appendLast true rs h) := by
  rcases snoc_cases rs with rfl | ⟨pre, r, rfl⟩
  · exact inv_fresh inv_nil nofun
  · obtain ⟨ip, wr, sep, ep⟩ := inv_snoc.1 hi
    rw [headOf_snoc] at hh
    rw [appendLast_snoc]
    cases hl : r.hs.getLast? with
    | none =>
      have hr := List.getLast?_eq_none_iff.1 hl
      rw [show appendLast true [r] h = [⟨h, [h]⟩] from congrArg (fun x => [x]) (if_pos (by rw [hr]; rfl))]
      exact inv_fresh ip fun x hx => by obtain ⟨a, ha, hxa⟩ := List.mem_flatMap.1 hx; rw [ep a ha hr] at hxa; contradiction
    | some hd =>
      obtain rfl := hh hd hl
      have hm := List.mem_of_getLast? hl
      rw [appendLast_of_ne _ (List.ne_nil_of_mem hm)]
      refine inv_snoc.2 ⟨ip, ?_, fun a ha x hx y hy => ?_, fun _ _ hne => ?_⟩
      · exact contig_concat wr hl
      · rcases List.mem_append.1 hy with hy | hy
        · exact sep a ha x hx y hy
        · rw [List.mem_singleton.1 hy]; exact Nat.lt_succ_of_lt (sep a ha x hx hd hm)
      · simp at hne

theorem add_inv {rs : Ranges} (h : Nat) (hi : Inv rs) : Inv (add rs h) := by
  obtain ⟨plan, e, hs⟩ := add_spec hi h
  rw [e]
  cases plan with
  | drop => exact hi
  | fresh => exact inv_fresh hi hs
  | append =>
    obtain ⟨⟨hd, hh, rfl⟩, _⟩ := hs
    exact inv_appendLast hi fun _ hh' => by cases hh.symm.trans hh'; rfl

/-- `Add(h)` has read the head of the last range of `rs`; by the time it applies its decision the pending set has become
    `rs'`. If the head of `rs'` is still the one that was read, or `rs'` has no head any more, the invariant holds -/
theorem addApply_inv {rs rs' : Ranges} (h : Nat) (hi' : Inv rs') (hhd : headOf rs' = none ∨ headOf rs' = headOf rs) :
    Inv (addApply true rs' (addRead rs h) h) := by
  rcases hhd with hn | e
  · -- nothing is cached in `rs'`: any decision is harmless
    have hnil : heights rs' = [] := List.getLast?_eq_none_iff.1 (headOf_eq hi' ▸ hn)
    cases addRead rs h with
    | drop => exact hi'
    | fresh => exact inv_fresh hi' (by rw [hnil]; nofun)
    | append => exact inv_appendLast hi' (by rw [hn]; nofun)
  · -- the decision is the one `Add` would take on `rs'` itself
    have : addRead rs h = addRead rs' h := by unfold addRead; rw [e]
    rw [this, addApply_addRead]; exact add_inv h hi'

theorem heights_appendLast (b : Bool) (rs : Ranges) (h : Nat) : heights (appendLast b rs h) = heights rs ++ [h] := by
  rcases snoc_cases rs with rfl | ⟨pre, r, rfl⟩
  · rfl
  · rw [appendLast_snoc]
    show heights (pre ++ [if r.hs.isEmpty && b then ⟨h, [h]⟩ else { r with hs := r.hs ++ [h] }]) = _
    rw [heights_snoc, heights_snoc, List.append_assoc]
    split
    · next hc => rw [Bool.and_eq_true, List.isEmpty_iff] at hc; rw [hc.1]; rfl
    · rfl

theorem heights_addApply (b : Bool) (rs : Ranges) (plan : AddPlan) (h : Nat) :
    heights (addApply b rs plan h) = if plan = .drop then heights rs else heights rs ++ [h] := by
  cases plan
  · rfl
  · exact heights_appendLast b rs h
  · exact heights_snoc rs _

/-- `Add` does not change what `Get(to)` finds in the first range, as long as something at or above `to` is cached -/
theorem get_add_first {r : Rng} {rest : Ranges} {to : Nat} (h : Nat) (hi : Inv (r :: rest))
    (hto : ∃ x ∈ heights (r :: rest), to ≤ x) : ∃ r' rest', add (r :: rest) h = r' :: rest' ∧ get r' to = get r to := by
  cases rest with
  | cons q rest => exact ⟨r, add (q :: rest) h, rfl, rfl⟩
  | nil =>
    obtain ⟨plan, e, hs⟩ := add_spec hi h
    rw [e]
    cases plan with
    | drop | fresh => exact ⟨r, _, rfl, rfl⟩
    | append =>
      -- the only range is extended by the successor of its head, which is above `to`
      obtain ⟨⟨hd, hl, rfl⟩, hlt⟩ := hs
      obtain ⟨x, hx, hle⟩ := hto
      have wr := inv_singleton.1 hi
      have wr' : Rng.WF { r with hs := r.hs ++ [hd + 1] } := contig_concat wr hl
      refine ⟨_, [], appendLast_of_ne _ (List.ne_nil_of_mem (List.mem_of_getLast? hl)), ?_⟩
      rw [get_spec to wr', get_spec to wr, List.filter_append,
        List.filter_cons_of_neg (by rw [decide_eq_true_eq]; exact Nat.not_le.2 (Nat.lt_of_le_of_lt hle (hlt x hx))),
        List.filter_nil, List.append_nil]

/-! ### `First`, `Remove`, `Prune` -/

theorem clean_eq_dropWhile : ∀ (rs : Ranges), clean rs = rs.dropWhile (·.hs.isEmpty)
  | [] => rfl
  | r :: rest => by rw [clean, List.dropWhile_cons, clean_eq_dropWhile rest]

theorem Inv.sublist {l₁ l₂ : Ranges} (hi : Inv l₂) (h : l₁.Sublist l₂) : Inv l₁ :=
  ⟨fun r hr => hi.wf r (h.subset hr), hi.sep.sublist h, hi.ep.sublist h⟩

theorem clean_inv {rs : Ranges} (hi : Inv rs) : Inv (clean rs) :=
  hi.sublist (clean_eq_dropWhile rs ▸ List.dropWhile_sublist _)

theorem clean_length_le (rs : Ranges) : (clean rs).length ≤ rs.length :=
  clean_eq_dropWhile rs ▸ (List.dropWhile_sublist _).length_le

theorem clean_head_ne {rs rest : Ranges} {r : Rng} (h : clean rs = r :: rest) : r.hs ≠ [] := by
  have := List.head?_dropWhile_not (·.hs.isEmpty) rs
  rw [← clean_eq_dropWhile, h] at this
  exact fun e => by simp [e] at this

theorem heights_clean (rs : Ranges) : heights (clean rs) = heights rs := by
  fun_induction clean rs with
  | case1 => rfl
  | case2 r rest he ih => rw [ih, heights_cons, List.isEmpty_iff.1 he]; rfl
  | case3 => rfl

theorem removeFirst_inv {rs : Ranges} (e : Nat) (hi : Inv rs) : Inv (removeFirst rs e) := by
  cases rs with
  | nil => exact hi
  | cons r rest =>
    obtain ⟨wr, hrest, sep, ep⟩ := inv_cons.1 hi
    exact inv_cons.2 ⟨remove_wf e wr, hrest, fun b hb x hx => sep b hb x (remove_subset r e x hx),
      fun b hb hbe => by show r.hs.drop _ = []; rw [ep b hb hbe, List.drop_nil]⟩

theorem headOf_removeFirst : ∀ (rs : Ranges) (e : Nat), headOf (removeFirst rs e) = none ∨ headOf (removeFirst rs e) = headOf rs
  | [], _ => .inl rfl
  | [r], e => by
    show (r.hs.drop _).getLast? = none ∨ (r.hs.drop _).getLast? = r.hs.getLast?
    rw [List.getLast?_drop]; split
    · exact .inl rfl
    · exact .inr rfl
  | _ :: _ :: _, _ => .inr rfl

theorem prune_inv {rs : Ranges} (e : Nat) (hi : Inv rs) : Inv (prune rs e) := by
  refine ⟨fun r' hr' => ?_, ?_, ?_⟩
  · obtain ⟨r, hr, rfl⟩ := List.mem_map.1 hr'
    exact remove_wf e (hi.wf r hr)
  · exact List.pairwise_map.2 (hi.sep.imp fun hab x hx y hy => hab x (remove_subset _ e x hx) y (remove_subset _ e y hy))
  · refine List.pairwise_map.2 ((hi.sep.and hi.ep).imp_of_mem fun {a b} ha hb hab hbe => ?_)
    rw [remove_spec e (hi.wf a ha)]; rw [remove_spec e (hi.wf b hb)] at hbe
    refine List.filter_eq_nil_iff.2 fun x hx => ?_
    by_cases hbn : b.hs = []
    · rw [hab.2 hbn] at hx; contradiction
    · obtain ⟨y, hy⟩ := List.exists_mem_of_ne_nil _ hbn
      have h1 := hab.1 x hx y hy
      have h2 := List.filter_eq_nil_iff.1 hbe y hy
      simp only [decide_eq_true_eq] at h2 ⊢; omega

theorem heights_prune {rs : Ranges} (e : Nat) (hw : ∀ r ∈ rs, r.WF) : heights (prune rs e) = (heights rs).filter (· > e) := by
  rw [heights, prune, List.flatMap_map, heights, List.filter_flatMap]
  exact congrArg List.flatten (List.map_congr_left fun r hr => remove_spec e (hw r hr))

theorem step_inv {rs : Ranges} (op : Op) (hi : Inv rs) : Inv (step rs op) := by
  cases op with
  | add h => exact add_inv h hi
  | first => exact clean_inv hi
  | removeFirst e => exact removeFirst_inv e hi
  | prune e => exact prune_inv e hi

/-! ### the cache loop of processHeaders -/

/-- everything cached lies above `to` once the first (non-empty) range starts above it -/
theorem all_above {r : Rng} {rest : Ranges} {to : Nat} (hi : Inv (r :: rest)) (hne : r.hs ≠ []) (hg : get r to = []) :
    ∀ x ∈ heights (r :: rest), to < x := by
  obtain ⟨wr, _, sep, _⟩ := inv_cons.1 hi
  have hr : ∀ x ∈ r.hs, to < x := by rw [← get_append_remove r to, hg]; exact (contig_cut to wr).2
  intro x hx
  rw [heights_cons] at hx
  rcases List.mem_append.1 hx with h | h
  · exact hr x h
  · obtain ⟨y, hy⟩ := List.exists_mem_of_ne_nil _ hne
    obtain ⟨b, hb, hxb⟩ := List.mem_flatMap.1 h
    exact Nat.lt_trans (hr y hy) (Nat.lt_of_succ_lt (sep b hb y hy x hxb))

/-- one iteration of the loop: it breaks only when nothing up to `to` is cached; otherwise it hands over a front part of the
    cached heights, all up to `to`, and then has one range less to look at, or nothing up to `to` is left -/
theorem drainStep_spec {rs : Ranges} (hi : Inv rs) (to : Nat) :
    match drainStep rs to with
    | none => ∀ x ∈ heights rs, to < x
    | some (hs, rs') => hs ++ heights rs' = heights rs ∧ (∀ x ∈ hs, x ≤ to) ∧ Inv rs' ∧
        ((clean rs').length < (clean rs).length ∨ ∀ x ∈ heights rs', to < x) := by
  have hic := clean_inv hi
  rw [← heights_clean rs]
  fun_cases drainStep rs to with
  | case1 hc => rw [hc]; nofun
  | case2 r rest hc hg =>
    rw [hc] at hic ⊢
    exact all_above hic (clean_head_ne hc) (List.isEmpty_iff.1 hg)
  | case3 r rest hc hg =>
    rw [hc] at hic ⊢
    have wr := (inv_cons.1 hic).1
    have hi' : Inv (remove r to :: rest) := removeFirst_inv to hic
    refine ⟨by rw [heights_cons, heights_cons, ← List.append_assoc, get_append_remove],
      (contig_cut to wr).1, hi', ?_⟩
    by_cases hem : (remove r to).hs = []
    · left; rw [clean, if_pos (List.isEmpty_iff.2 hem)]; exact Nat.lt_succ_of_le (clean_length_le rest)
    · right; exact all_above hi' hem (get_remove_nil to wr)

/-- the loop cuts the cached heights at `to`, given one unit of fuel per range -/
theorem drain_spec (to f : Nat) {rs : Ranges} (hi : Inv rs) (hf : (clean rs).length ≤ f ∨ ∀ x ∈ heights rs, to < x) :
    (drain f rs to).1 ++ heights (drain f rs to).2 = heights rs ∧ (∀ x ∈ (drain f rs to).1, x ≤ to) ∧
    (∀ x ∈ heights (drain f rs to).2, to < x) ∧ Inv (drain f rs to).2 := by
  fun_induction drain f rs to with
  | case1 rs to =>
    have ha : ∀ x ∈ heights rs, to < x :=
      hf.elim (fun hl => by rw [← heights_clean, List.eq_nil_of_length_eq_zero (Nat.le_zero.1 hl)]; nofun) id
    exact ⟨heights_clean rs, nofun, (heights_clean rs).symm ▸ ha, clean_inv hi⟩
  | case2 f rs to hd =>
    have ha := drainStep_spec hi to
    rw [hd] at ha
    exact ⟨heights_clean rs, nofun, (heights_clean rs).symm ▸ ha, clean_inv hi⟩
  | case3 f rs to out rs' hd _ ih =>
    have hs := drainStep_spec hi to
    rw [hd] at hs
    obtain ⟨e, hle, hi', hm⟩ := hs
    obtain ⟨e', hle', hgt', hi''⟩ := ih hi' (hm.elim (fun hlt => hf.imp
      (fun hl => Nat.le_of_lt_succ (Nat.lt_of_lt_of_le hlt hl)) fun hd x hx => hd x (e ▸ List.mem_append_right _ hx)) .inr)
    exact ⟨by rw [List.append_assoc, e', e], fun x hx => (List.mem_append.1 hx).elim (hle x) (hle' x), hgt', hi''⟩

end GoHeader.Ranges
