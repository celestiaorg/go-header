/-
  Lemmas.Store — `Store.Seq`: the invariant `Good` of every reachable state, and the exact effect of every operation on
  what is stored.  Property theorems live in Props/C04, C06, C08, C14.
-/
import GoHeader.Store.Seq
namespace GoHeader.Store

/-! ### walks -/

theorem walkUp_spec (p : Nat → Bool) (f h : Nat) :
    h ≤ walkUp p f h ∧ ∀ k, h < k → k ≤ walkUp p f h → p k = true := by
  fun_induction walkUp p f h with
  | case2 f h hp ih =>
    refine ⟨Nat.le_of_succ_le ih.1, fun k h1 h2 => ?_⟩
    rcases Nat.eq_or_lt_of_le h1 with rfl | hk
    · exact hp
    · exact ih.2 k hk h2
  | _ => exact ⟨Nat.le_refl _, fun k h1 h2 => absurd h2 (Nat.not_le.mpr h1)⟩

theorem walkUp_top (p : Nat → Bool) (bound : Nat) (hb : ∀ k, bound < k → p k = false) (f h : Nat)
    (hf : bound ≤ h + f) : p (walkUp p f h + 1) = false := by
  fun_induction walkUp p f h with
  | case1 h => exact hb _ (Nat.lt_succ_of_le hf)
  | case2 f h hp ih => exact ih (Nat.succ_add_eq_add_succ h f ▸ hf)
  | case3 f h hp => exact Bool.eq_false_iff.mpr hp

theorem walkDown_spec (p : Nat → Bool) (f h : Nat) :
    walkDown p f h ≤ h ∧ ∀ k, walkDown p f h ≤ k → k < h → p k = true := by
  fun_induction walkDown p f h with
  | case3 f h h0 hp ih =>
    refine ⟨Nat.le_trans ih.1 (Nat.sub_le _ _), fun k h1 h2 => ?_⟩
    rcases Nat.eq_or_lt_of_le (Nat.le_sub_one_of_lt h2) with rfl | hk
    · exact hp
    · exact ih.2 k h1 hk
  | _ => exact ⟨Nat.le_refl _, fun k h1 h2 => absurd h2 (Nat.not_lt.mpr h1)⟩
theorem le_maxOf {l : List Nat} {x : Nat} (h : x ∈ l) : x ≤ maxOf l := by
  induction l with
  | nil => cases h
  | cons a as ih =>
    rcases List.mem_cons.mp h with rfl | h'
    · exact Nat.le_max_left _ _
    · exact Nat.le_trans (ih h') (Nat.le_max_right _ _)

/-! ### the invariants -/

def Coh (s : St) : Prop := ∀ h, h ∈ s.idx ↔ h ∈ s.hdr

/-- the store invariant: both ends set or unset, Tail ≤ Head, every height between them present,
    Head is the top of the run, Height() = Head -/
def Inv (s : St) : Prop :=
  (s.head = none ↔ s.tail = none) ∧ Coh s ∧
  ∀ hd tl, s.head = some hd → s.tail = some tl →
    tl ≤ hd ∧ (∀ h, tl ≤ h → h ≤ hd → s.present h) ∧ ¬ s.present (hd+1) ∧ s.hs = hd

/-- persisted pointers are current, or the end they lag behind is still in the write batch -/
def PtrInv (s : St) : Prop :=
  (s.headPtr = s.head ∨ ∃ hd, s.head = some hd ∧ hd ∈ s.pending) ∧
  (s.tailPtr = s.tail ∨ ∃ tl, s.tail = some tl ∧ tl ∈ s.pending)

theorem present_le_bound (s : St) (k : Nat) (h : s.present k) : k ≤ s.bound := by
  rcases h with h | ⟨h, _⟩
  · exact Nat.le_trans (le_maxOf h) (Nat.le_max_left _ _)
  · exact Nat.le_trans (le_maxOf h) (Nat.le_max_right _ _)

/-- `getByHeight`'s lookup order, flattened: the ends are answered from memory, everything else as `present` -/
theorem lookup_iff (s : St) (h : Nat) :
    s.lookup h = true ↔ s.head = some h ∨ s.tail = some h ∨ s.present h := by
  simp only [St.lookup, St.byHash, St.present, Bool.or_eq_true, Bool.and_eq_true, decide_eq_true_eq, beq_iff_eq]
  grind

theorem lookup_of_present (s : St) (h : Nat) (hp : s.present h) : s.lookup h = true :=
  (lookup_iff s h).mpr (Or.inr (Or.inr hp))

theorem byHash_of_present (s : St) (h : Nat) (hp : s.present h) : s.byHash h = true := by
  simp only [St.byHash, Bool.or_eq_true, decide_eq_true_eq]
  exact hp.imp id (·.2)

/-- `GetByHeight` finds exactly the positive heights the lookup finds -/
theorem getByHeight_found_iff (s : St) (h : Nat) : s.getByHeight h = .found ↔ 0 < h ∧ s.lookup h = true := by
  unfold St.getByHeight
  by_cases h0 : h = 0
  · simp [h0]
  by_cases hl : s.lookup h = true
  · simp [h0, hl, Nat.pos_of_ne_zero h0]
  · rw [if_neg h0, if_neg hl]; split <;> simp [hl]

theorem lookup_iff_present {s : St} (hh : ∀ hd, s.head = some hd → s.present hd)
    (ht : ∀ tl, s.tail = some tl → s.present tl) (h : Nat) : s.lookup h = true ↔ s.present h :=
  (lookup_iff s h).trans ⟨fun e => e.elim (hh h) (·.elim (ht h) id), fun e => Or.inr (Or.inr e)⟩

theorem Inv.ends {s : St} (hi : Inv s) {hd : Nat} (eh : s.head = some hd) :
    ∃ tl, s.tail = some tl ∧ tl ≤ hd ∧ (∀ h, tl ≤ h → h ≤ hd → s.present h) ∧ ¬ s.present (hd+1) ∧ s.hs = hd := by
  cases et : s.tail with
  | none => rw [hi.1.mpr et] at eh; cases eh
  | some tl => exact ⟨tl, rfl, hi.2.2 hd tl eh et⟩

theorem Inv.present_head {s : St} (hi : Inv s) {hd : Nat} (eh : s.head = some hd) : s.present hd :=
  have ⟨_, _, hle, hall, _⟩ := hi.ends eh
  hall hd hle (Nat.le_refl _)

theorem Inv.present_tail {s : St} (hi : Inv s) {tl : Nat} (et : s.tail = some tl) : s.present tl := by
  cases eh : s.head with
  | none => rw [hi.1.mp eh] at et; cases et
  | some hd => exact (hi.2.2 hd tl eh et).2.1 tl (Nat.le_refl _) (hi.2.2 hd tl eh et).1

theorem Inv.lookup {s : St} (hi : Inv s) (h : Nat) : s.lookup h = true ↔ s.present h :=
  lookup_iff_present (fun _ => hi.present_head) (fun _ => hi.present_tail) h

theorem Inv.top {s : St} (hi : Inv s) {hd : Nat} (eh : s.head = some hd) : s.lookup (hd + 1) = false := by
  obtain ⟨_, _, _, _, htop, _⟩ := hi.ends eh
  exact Bool.eq_false_iff.mpr fun hl => htop ((hi.lookup _).mp hl)

theorem Inv.intro {s : St} {hd tl : Nat} (eh : s.head = some hd) (et : s.tail = some tl) (hc : Coh s) (hle : tl ≤ hd)
    (hall : ∀ h, tl ≤ h → h ≤ hd → s.present h) (htop : ¬ s.present (hd + 1)) (hhs : s.hs = hd) : Inv s :=
  ⟨by rw [eh, et]; exact ⟨nofun, nofun⟩, hc, fun _ _ eh' et' => by
    cases eh.symm.trans eh'; cases et.symm.trans et'; exact ⟨hle, hall, htop, hhs⟩⟩

/-! ### advance ; recede -/

/-- `advanceHead` from a stored head: the head moves to the top of the stored run above it, and `Height()` with it -/
theorem advance_spec {s : St} {hd : Nat} (eh : s.head = some hd) (hhs : s.hs = hd)
    (hlk : ∀ k, s.lookup k = true ↔ s.present k) :
    ∃ nh, hd ≤ nh ∧ s.advance = { s with head := some nh, hs := nh } ∧
      (∀ k, hd < k → k ≤ nh → s.present k) ∧ ¬ s.present (nh + 1) := by
  obtain ⟨hge, hup⟩ := walkUp_spec s.lookup (s.bound + 1) hd
  -- the fuel reaches past everything stored
  have htop := walkUp_top s.lookup s.bound
    (fun k hk => Bool.eq_false_iff.mpr fun hl => absurd (present_le_bound s k ((hlk k).mp hl)) (Nat.not_le.mpr hk))
    (s.bound + 1) hd (Nat.le_trans (Nat.le_succ _) (Nat.le_add_left _ _))
  refine ⟨_, hge, ?_, fun k h1 h2 => (hlk k).mp (hup k h1 h2), fun hp => by rw [(hlk _).mpr hp] at htop; cases htop⟩
  simp only [St.advance, eh]
  congr 1; split
  · next h => rw [hhs, h]
  · rw [hhs, Nat.max_eq_right hge]

/-- `recedeTail`: the tail moves to the bottom of the stored run below it -/
theorem recede_spec {s : St} {tl : Nat} (et : s.tail = some tl) (hlk : ∀ k, s.lookup k = true ↔ s.present k) :
    ∃ nt, nt ≤ tl ∧ s.recede = { s with tail := some nt } ∧ ∀ k, nt ≤ k → k < tl → s.present k := by
  obtain ⟨hle, hdown⟩ := walkDown_spec s.lookup tl tl
  exact ⟨_, hle, by simp only [St.recede, et], fun k h1 h2 => (hlk k).mp (hdown k h1 h2)⟩

/-- between the stages of the flush closure the ends bracket a stored run, but need not be its top and bottom: the two
    walks extend it to both, which is `Inv` -/
theorem inv_advance_recede {s : St} {hd tl : Nat} (eh : s.head = some hd) (et : s.tail = some tl) (hc : Coh s)
    (hle : tl ≤ hd) (hall : ∀ h, tl ≤ h → h ≤ hd → s.present h) (hhs : s.hs = hd) : Inv s.advance.recede := by
  have hlk := lookup_iff_present (s := s) (fun _ e => by cases eh.symm.trans e; exact hall hd hle (Nat.le_refl _))
    (fun _ e => by cases et.symm.trans e; exact hall tl (Nat.le_refl _) hle)
  obtain ⟨nh, hge, ea, hup, htop⟩ := advance_spec eh hhs hlk
  have hall1 : ∀ h, tl ≤ h → h ≤ nh → s.present h := fun h h1 h2 =>
    if hc : h ≤ hd then hall h h1 hc else hup h (Nat.lt_of_not_le hc) h2
  -- `recede` looks up in the store whose head has moved: that head is stored again
  have hlk1 := lookup_iff_present (s := { s with head := some nh, hs := nh })
    (fun _ e => by cases e; exact hall1 nh (Nat.le_trans hle hge) (Nat.le_refl _))
    (fun _ e => by cases et.symm.trans e; exact hall tl (Nat.le_refl _) hle)
  obtain ⟨nt, hdn, er, hdown⟩ := recede_spec (s := { s with head := some nh, hs := nh }) et hlk1
  rw [ea, er]
  exact Inv.intro rfl rfl hc (Nat.le_trans hdn (Nat.le_trans hle hge))
    (fun h h1 h2 => if hc : tl ≤ h then hall1 h hc h2 else hdown h h1 (Nat.lt_of_not_le hc)) htop rfl

/-- the walks touch the ends and the height only, and never unset an end -/
theorem advance_recede_frame (s : St) :
    ∃ f g hs, s.advance.recede = { s with head := s.head.map f, tail := s.tail.map g, hs := hs } := by
  refine ⟨fun hd => walkUp s.lookup (s.bound + 1) hd, fun tl => walkDown s.advance.lookup tl tl, s.advance.hs, ?_⟩
  obtain ⟨batch, hdr, idx, headPtr, tailPtr, pending, head, tail, hs, queue, handlers, calls⟩ := s
  cases head <;> cases tail <;> rfl

/-- `ensureInit` sets both ends and touches nothing but them and the height -/
theorem ensureInit_frame (s : St) (x : Nat) :
    ∃ hd tl hs, s.ensureInit x = { s with head := some hd, tail := some tl, hs := hs } := by
  obtain ⟨batch, hdr, idx, headPtr, tailPtr, pending, head, tail, hs, queue, handlers, calls⟩ := s
  cases head <;> cases tail <;> exact ⟨_, _, _, rfl⟩

theorem present_advance_recede (s : St) (k : Nat) : s.advance.recede.present k ↔ s.present k := by
  obtain ⟨f, g, hs, e⟩ := advance_recede_frame s
  rw [e]; exact Iff.rfl

theorem pending_advance_recede (s : St) : s.advance.recede.pending = s.pending := by
  obtain ⟨f, g, hs, e⟩ := advance_recede_frame s
  rw [e]

/-- advance ; recede preserves `Inv` also when the store is empty -/
theorem inv_advance_recede_of_inv (s : St) (hi : Inv s) : Inv s.advance.recede := by
  cases hh : s.head with
  | none =>
    have : s.advance.recede = s := by simp only [St.advance, St.recede, hh, hi.1.mp hh]
    rw [this]; exact hi
  | some hd =>
    obtain ⟨tl, ht, hle, hall, _, hhs⟩ := hi.ends hh
    exact inv_advance_recede hh ht hi.2.1 hle hall hhs

/-! ### commit -/

theorem present_commit (s : St) (k : Nat) : s.commit.present k ↔ s.present k := by
  simp only [St.commit, St.present, mem_union, List.not_mem_nil, false_or]
  grind

theorem coh_commit (s : St) (hc : Coh s) : Coh s.commit := fun h => by
  simp only [St.commit, mem_union, hc h]

theorem inv_commit (s : St) (hi : Inv s) : Inv s.commit :=
  ⟨hi.1, coh_commit s hi.2.1, fun hd tl eh et =>
    have ⟨a, b, c, d⟩ := hi.2.2 hd tl eh et
    ⟨a, fun h h1 h2 => (present_commit s h).mpr (b h h1 h2), fun hp => c ((present_commit s _).mp hp), d⟩⟩

/-! ### pointers on disk never outlive the ends -/

/-- a persisted pointer exists only while the corresponding end is set -/
def NoPtr (s : St) : Prop := (s.head = none → s.headPtr = none) ∧ (s.tail = none → s.tailPtr = none)

def Good (s : St) : Prop := Inv s ∧ NoPtr s

theorem noPtr_advance_recede (s : St) (h : NoPtr s) : NoPtr s.advance.recede := by
  obtain ⟨f, g, hs, e⟩ := advance_recede_frame s
  rw [e]
  exact ⟨fun e => h.1 (Option.map_eq_none_iff.mp e), fun e => h.2 (Option.map_eq_none_iff.mp e)⟩

theorem noPtr_commit (s : St) (h : NoPtr s) : NoPtr s.commit := by
  unfold NoPtr St.commit
  exact ⟨fun (e : s.head = none) => by simp only [e, h.1 e], fun (e : s.tail = none) => by simp only [e, h.2 e]⟩

/-! ### one flushed batch -/

theorem inv_flushBatch (s : St) (hs : List Nat) (hi : Inv s) : Inv (s.flushBatch hs) := by
  cases hs with
  | nil => exact hi
  | cons x xs =>
    -- after `ensureInit` the ends bracket a stored run: the first header of the batch alone, or the old chain
    have h5 : Inv (({ s with pending := HSet.union s.pending (x :: xs) } : St).ensureInit x).advance.recede := by
      rcases Option.eq_none_or_eq_some s.head with hh | ⟨hd, hh⟩
      · rw [show ({ s with pending := HSet.union s.pending (x :: xs) } : St).ensureInit x =
            { s with pending := HSet.union s.pending (x :: xs), head := some x, tail := some x, hs := x } by
          simp only [St.ensureInit, hh, hi.1.mp hh]]
        refine inv_advance_recede rfl rfl hi.2.1 (Nat.le_refl x) (fun h h1 h2 => ?_) rfl
        cases Nat.le_antisymm h2 h1
        exact Or.inl ((mem_union ..).mpr (Or.inr List.mem_cons_self))
      · obtain ⟨tl, ht, hle, hall, _, hhs⟩ := hi.ends hh
        rw [show ({ s with pending := HSet.union s.pending (x :: xs) } : St).ensureInit x =
            { s with pending := HSet.union s.pending (x :: xs) } by simp only [St.ensureInit, hh, ht]]
        exact inv_advance_recede hh ht hi.2.1 hle
          (fun h h1 h2 => (hall h h1 h2).imp (fun h => (mem_union ..).mpr (Or.inl h)) id) hhs
    simp only [St.flushBatch]
    split
    · exact inv_commit _ h5
    · exact h5

/-- a flushed batch goes to the write batch, sets both ends, and is committed or not; nothing else changes -/
theorem flushBatch_frame (s : St) (x : Nat) (xs : List Nat) : ∃ hd tl hs,
    s.flushBatch (x :: xs) =
        { s with pending := HSet.union s.pending (x :: xs), head := some hd, tail := some tl, hs := hs } ∨
      s.flushBatch (x :: xs) =
        St.commit { s with pending := HSet.union s.pending (x :: xs), head := some hd, tail := some tl, hs := hs } := by
  obtain ⟨hd, tl, hs, e1⟩ := ensureInit_frame { s with pending := HSet.union s.pending (x :: xs) } x
  obtain ⟨f, g, hs', e2⟩ := advance_recede_frame (({ s with pending := HSet.union s.pending (x :: xs) } : St).ensureInit x)
  refine ⟨f hd, g tl, hs', ?_⟩
  simp only [St.flushBatch]
  rw [e2, e1]
  split
  · exact Or.inr rfl
  · exact Or.inl rfl

theorem noPtr_flushBatch (s : St) (b : List Nat) (h : NoPtr s) : NoPtr (s.flushBatch b) := by
  cases b with
  | nil => exact h
  | cons x xs => obtain ⟨hd, tl, hs, e | e⟩ := flushBatch_frame s x xs <;> rw [e] <;> exact ⟨nofun, nofun⟩

theorem queue_flushBatch (s : St) (b : List Nat) : (s.flushBatch b).queue = s.queue := by
  cases b with
  | nil => rfl
  | cons x xs => obtain ⟨hd, tl, hs, e | e⟩ := flushBatch_frame s x xs <;> rw [e] <;> rfl

theorem present_flushBatch (s : St) (b : List Nat) (k : Nat) :
    (s.flushBatch b).present k ↔ s.present k ∨ k ∈ b := by
  cases b with
  | nil => simp [St.flushBatch]
  | cons x xs =>
    have : St.present { s with pending := HSet.union s.pending (x :: xs) } k ↔ s.present k ∨ k ∈ x :: xs := by
      simp only [St.present, mem_union, or_right_comm]
    obtain ⟨hd, tl, hs, e | e⟩ := flushBatch_frame s x xs <;> rw [e]
    · exact this
    · exact (present_commit ..).trans this

/-! ### Sync -/

theorem inv_sync (s : St) (hi : Inv s) : Inv s.sync :=
  List.foldlRecOn s.queue St.flushBatch hi fun t ht b _ => inv_flushBatch t b ht

theorem good_sync (s : St) (h : Good s) : Good s.sync :=
  List.foldlRecOn s.queue St.flushBatch h fun t ht b _ => ⟨inv_flushBatch t b ht.1, noPtr_flushBatch t b ht.2⟩

theorem queue_sync (s : St) : s.sync.queue = [] :=
  List.foldlRecOn (motive := (·.queue = [])) s.queue St.flushBatch rfl fun t ht b _ => (queue_flushBatch t b).trans ht

/-- stored, or waiting in the write queue -/
def St.mentions (s : St) (k : Nat) : Prop := s.present k ∨ ∃ b ∈ s.queue, k ∈ b

theorem present_foldl_flush (q : List (List Nat)) (s : St) (k : Nat) :
    (q.foldl St.flushBatch s).present k ↔ s.present k ∨ ∃ b ∈ q, k ∈ b := by
  induction q generalizing s with
  | nil => simp
  | cons b bs ih => simp only [List.foldl_cons, ih, present_flushBatch, List.mem_cons, or_and_right, exists_or, exists_eq_left, or_assoc]

/-- `Sync` stores exactly what was stored or queued -/
theorem present_sync (s : St) (k : Nat) : s.sync.present k ↔ s.mentions k :=
  present_foldl_flush s.queue { s with queue := [] } k

/-! ### DeleteRange -/

theorem present_delOne (s : St) (h k : Nat) : (s.delOne h).present k ↔ s.present k ∧ k ≠ h := by
  simp only [St.delOne, St.present, mem_del]
  grind

theorem coh_delOne (s : St) (h : Nat) (hc : Coh s) : Coh (s.delOne h) := fun k => by
  simp only [St.delOne, mem_del, hc k]

/-- the loop over `[a, e)` with `n + 1` heights to go has `n` to go from `a + 1` -/
theorem succ_add_of_add_succ {a n e : Nat} (he : a + (n + 1) = e) : a + 1 + n = e :=
  (Nat.succ_add_eq_add_succ a n).trans he

theorem not_range_succ {a k stop : Nat} (hs : a + 1 ≤ stop) :
    (k ≠ a ∧ ¬ (a + 1 ≤ k ∧ k < stop)) ↔ ¬ (a ≤ k ∧ k < stop) := by omega

theorem iff_and_not_range_nil {p : Prop} (k b : Nat) : p ↔ p ∧ ¬ (b ≤ k ∧ k < b) :=
  (and_iff_left fun y => Nat.lt_irrefl _ (Nat.lt_of_le_of_lt y.1 y.2)).symm

/-- what `deleteSequential` over `[a, e)` returns: it stops inside the range - at the height whose handler failed, else at
    the end -, has removed exactly what was stored below where it stopped, keeps the header that failed, and leaves the
    ends, the height and the write queue alone -/
structure LoopSpec (s : St) (a e : Nat) (r : St × Option Nat) : Prop where
  stop_ge : a ≤ r.2.getD e
  stop_le : r.2.getD e ≤ e
  present : ∀ k, r.1.present k ↔ s.present k ∧ ¬ (a ≤ k ∧ k < r.2.getD e)
  failed : ∀ h, r.2 = some h → h < e ∧ s.present h
  coh : Coh r.1
  head : r.1.head = s.head
  tail : r.1.tail = s.tail
  hs : r.1.hs = s.hs
  queue : r.1.queue = s.queue

theorem delLoop_spec (s : St) (a n e : Nat) (he : a + n = e) (hc : Coh s) : LoopSpec s a e (s.delLoop a n) := by
  fun_induction St.delLoop s a n with
  | case1 s a => exact ⟨Nat.le.intro he, Nat.le_refl _, fun k => he ▸ iff_and_not_range_nil k a, nofun, hc, rfl, rfl, rfl, rfl⟩
  | case2 s a n hin hok ih =>  -- `a` is deleted, the loop goes on: `[a + 1, stop)` grows to `[a, stop)`
    have ih := ih (succ_add_of_add_succ he) (coh_delOne _ a hc)
    exact ⟨Nat.le_of_succ_le ih.stop_ge, ih.stop_le,
      fun k => by rw [ih.present, present_delOne, and_assoc, not_range_succ ih.stop_ge]; exact Iff.rfl,
      fun h hf => ⟨(ih.failed h hf).1, ((present_delOne _ a h).mp (ih.failed h hf).2).1⟩,
      ih.coh, ih.head, ih.tail, ih.hs, ih.queue⟩
  | case3 s a n hin hnok =>  -- a handler failed for `a`: nothing more is deleted
    exact ⟨Nat.le_refl _, Nat.le.intro he, (iff_and_not_range_nil · a), fun h hf => by
      cases hf
      exact ⟨he ▸ Nat.lt_add_of_pos_right n.succ_pos, hin.elim (fun x => Or.inr ⟨x, (hc _).mp x⟩) Or.inl⟩, hc, rfl, rfl, rfl, rfl⟩
  | case4 s a n hnin ih =>  -- `a` is not stored: skipped
    have ih := ih (succ_add_of_add_succ he) hc
    have hna : ¬ s.present a := fun hp => hnin (hp.elim Or.inr (Or.inl ·.1))
    exact ⟨Nat.le_of_succ_le ih.stop_ge, ih.stop_le,
      fun k => by
        rw [ih.present, ← not_range_succ ih.stop_ge]
        exact ⟨fun ⟨x, y⟩ => ⟨x, fun hk => hna (hk ▸ x), y⟩, fun ⟨x, _, y⟩ => ⟨x, y⟩⟩,
      ih.failed, ih.coh, ih.head, ih.tail, ih.hs, ih.queue⟩

/-- what `DeleteRange`'s validation accepts: the whole chain, a proper prefix of it, or a proper suffix -/
theorem delKind_spec {s : St} (hi : Inv s) {a b : Nat} {k : Kind} (h : s.delKind a b = some k) :
    ∃ hd tl, s.head = some hd ∧ s.tail = some tl ∧ a < b ∧
      (k = .wipe ∧ a = tl ∧ b = hd + 1 ∨ k = .tailSide ∧ a = tl ∧ b ≤ hd ∨ k = .headSide ∧ b = hd + 1 ∧ tl < a) := by
  revert h
  -- the accepting branches of the validation, guards as hypotheses; the first cannot be taken: `b = hd + 1` is not stored
  fun_cases St.delKind s a b <;> intro h <;> cases h
  case case3 hd _ _ eh _ _ h3 hl => rw [h3.2, hi.top eh] at hl; cases hl
  case case4 hd tl et eh h1 _ h3 _ => exact ⟨hd, tl, eh, et, Nat.lt_of_not_le h1, .inl ⟨rfl, h3⟩⟩
  case case6 hd eh h1 h5 et _ h3 =>
    exact ⟨hd, a, eh, et, Nat.lt_of_not_le h1,
      .inr (.inl ⟨rfl, rfl, Nat.le_of_lt_succ (Nat.lt_of_le_of_ne (Nat.not_lt.mp h5) fun e => h3 ⟨rfl, e⟩)⟩)⟩
  case case8 hd tl et eh h1 _ _ h4 h5 h6 =>
    exact ⟨hd, tl, eh, et, Nat.lt_of_not_le h1, .inr (.inr ⟨rfl, h5, Nat.lt_of_le_of_ne (Nat.not_lt.mp h6) (Ne.symm h4)⟩)⟩

theorem deleteSynced_of_none {t : St} {a b : Nat} (hk : t.delKind a b = none) : t.deleteSynced a b = (t, .err) := by
  simp only [St.deleteSynced, hk]

theorem deleteSynced_of_some {t : St} {a b : Nat} {k : Kind} (hk : t.delKind a b = some k) :
    t.deleteSynced a b = (t.delLoop a (b - a)).1.finishDelete k a b (t.delLoop a (b - a)).2 := by
  simp only [St.deleteSynced, hk]

theorem setTail_eq (s : St) (to hd : Nat) (hl : s.lookup to = true) (eh : s.head = some hd) (hle : to ≤ hd) :
    s.setTail to = ({ s with tail := some to, tailPtr := some to }, true) := by
  simp only [St.setTail, St.tailOver, hl, eh, Nat.not_lt.mpr hle, Bool.not_true, Bool.false_eq_true, decide_false, if_false]

theorem setHead_eq (s : St) (to : Nat) (hl : s.lookup to = true) :
    s.setHead to = ({ s with head := some to, headPtr := some to, hs := to }, true) := by
  simp only [St.setHead, hl, Bool.not_true, Bool.false_eq_true, if_false]

/-- the outcome `r` of an accepted `DeleteRange(a, b)` on a drained store `t`, `fail` being the height whose handler
    failed, if any: the heights below it (below `b`, if none) are gone, the rest of the chain is a chain again -/
structure DeleteSpec (t : St) (a b : Nat) (fail : Option Nat) (r : St × DelRes) : Prop where
  stop_ge : a ≤ fail.getD b
  stop_le : fail.getD b ≤ b
  present : ∀ h, r.1.present h ↔ t.present h ∧ ¬ (a ≤ h ∧ h < fail.getD b)
  failed : ∀ h, fail = some h → h < b ∧ t.present h
  ok_iff : r.2 = .ok ↔ fail = none
  good : Good r.1
  queue : r.1.queue = t.queue

theorem deleteSynced_spec {t : St} (hi : Inv t) {a b : Nat} {k : Kind} (hk : t.delKind a b = some k) :
    DeleteSpec t a b (t.delLoop a (b - a)).2 (t.deleteSynced a b) := by
  obtain ⟨hd, tl, eh, et, hab, hshape⟩ := delKind_spec hi hk
  obtain ⟨hle, hall, htop, hhs⟩ := hi.2.2 hd tl eh et
  have L := delLoop_spec t a (b - a) b (Nat.add_sub_cancel' (Nat.le_of_lt hab)) hi.2.1
  rw [deleteSynced_of_some hk]
  generalize t.delLoop a (b - a) = r at *
  obtain ⟨s1, fail⟩ := r
  obtain ⟨hstop1, hstop2, hpres, hfail, hcoh, eh1, et1, hhs1, hq1⟩ := L
  rw [eh] at eh1; rw [et] at et1; rw [hhs] at hhs1
  simp only at *
  -- what is left to show of the final state `s'`, which differs from `s1` in ends, pointers and height only
  let P (s' : St) : Prop := (∀ h, s'.present h ↔ s1.present h) ∧ s'.queue = s1.queue ∧ Good s'
  suffices h : P (s1.finishDelete k a b fail).1 ∧ ((s1.finishDelete k a b fail).2 = .ok ↔ fail = none) from
    ⟨hstop1, hstop2, fun x => (h.1.1 x).trans (hpres x), hfail, h.2, h.1.2.2, h.1.2.1.trans hq1⟩
  have nh : s1.head ≠ none := fun e => Option.some_ne_none hd (eh1.symm.trans e)
  have nt : s1.tail ≠ none := fun e => Option.some_ne_none tl (et1.symm.trans e)
  -- the tail moves up to where the deletion stopped: that height is stored, nothing below it is
  have tailMoved : ∀ stop, fail.getD b = stop → a = tl → stop ≤ hd → (s1.setTail stop).2 = true ∧ P (s1.setTail stop).1 := by
    rintro stop rfl rfl hs
    have hkeep : ∀ h, fail.getD b ≤ h → h ≤ hd → s1.present h := fun h x y =>
      (hpres h).mpr ⟨hall h (Nat.le_trans hstop1 x) y, fun c => Nat.not_lt.mpr x c.2⟩
    rw [setTail_eq s1 _ hd (lookup_of_present _ _ (hkeep _ (Nat.le_refl _) hs)) eh1 hs]
    exact ⟨rfl, fun _ => Iff.rfl, rfl,
      Inv.intro eh1 rfl hcoh hs hkeep (fun hp => htop ((hpres _).mp hp).1) hhs1, (absurd · nh), nofun⟩
  -- the head moves down below the range: `a - 1` is stored, the run up to it is intact
  have headMoved : tl < a → a < fail.getD b → b = hd + 1 → (s1.setHead (a - 1)).2 = true ∧ P (s1.setHead (a - 1)).1 := by
    intro ha hs hbd
    have ha1 : a - 1 + 1 = a := Nat.sub_add_cancel (Nat.zero_lt_of_lt ha)
    have hkeep : ∀ h, tl ≤ h → h ≤ a - 1 → s1.present h := fun h x y =>
      have hlt : h < a := ha1 ▸ Nat.lt_succ_of_le y
      (hpres h).mpr ⟨hall h x (Nat.le_of_lt_succ (Nat.lt_of_lt_of_le (Nat.lt_trans hlt hs) (hbd ▸ hstop2))),
        fun c => Nat.not_le.mpr hlt c.1⟩
    rw [setHead_eq s1 _ (lookup_of_present _ _ (hkeep _ (Nat.le_sub_one_of_lt ha) (Nat.le_refl _)))]
    exact ⟨rfl, fun _ => Iff.rfl, rfl, Inv.intro rfl et1 hcoh (Nat.le_sub_one_of_lt ha) hkeep
      (fun hp => ((hpres _).mp hp).2 ⟨Nat.le_of_eq ha1.symm, ha1.symm ▸ hs⟩) rfl, nofun, (absurd · nt)⟩
  rcases hshape with ⟨rfl, rfl, rfl⟩ | ⟨rfl, rfl, hbh⟩ | ⟨rfl, rfl, hta⟩ <;> cases fail with
  | none => ?_
  | some h => ?_
  · exact ⟨⟨fun _ => Iff.rfl, rfl, ⟨Iff.rfl, hcoh, nofun⟩, fun _ => rfl, fun _ => rfl⟩, fun _ => rfl, fun _ => rfl⟩
  · exact ⟨(tailMoved h rfl rfl (Nat.le_of_lt_succ (hfail h rfl).1)).2, nofun, nofun⟩
  · exact ⟨(tailMoved b rfl rfl hbh).2, by simp [St.finishDelete, (tailMoved b rfl rfl hbh).1]⟩
  · exact ⟨(tailMoved h rfl rfl (Nat.le_trans (Nat.le_of_lt (hfail h rfl).1) hbh)).2, nofun, nofun⟩
  · simp only [St.finishDelete, hab, if_true]
    exact ⟨(headMoved hta hab rfl).2, by simp [(headMoved hta hab rfl).1]⟩
  · by_cases hprog : h > a <;> simp only [St.finishDelete, hprog, if_true, if_false]
    · exact ⟨(headMoved hta hprog rfl).2, nofun, nofun⟩
    · -- the very first handler failed: nothing was deleted
      have hkeep : ∀ h, s1.present h ↔ t.present h := fun x =>
        (hpres x).trans (and_iff_left fun c => hprog (Nat.lt_of_le_of_lt c.1 c.2))
      exact ⟨⟨fun _ => Iff.rfl, rfl, Inv.intro eh1 et1 hcoh hle (fun h x y => (hkeep h).mpr (hall h x y))
        (fun hp => htop ((hkeep _).mp hp)) hhs1, (absurd · nh), (absurd · nt)⟩, nofun, nofun⟩

/-- `DeleteRange` first drains the write queue -/
theorem good_syncedForDelete (s : St) (h : Good s) : Good s.syncedForDelete := good_sync s h

theorem inv_syncedForDelete (s : St) (hi : Inv s) : Inv s.syncedForDelete := inv_sync s hi

theorem present_syncedForDelete (s : St) (k : Nat) : s.syncedForDelete.present k ↔ s.mentions k := present_sync s k

theorem deleteRange_spec (s : St) (hg : Good s) {a b : Nat} {k : Kind} (hk : s.syncedForDelete.delKind a b = some k) :
    DeleteSpec s.syncedForDelete a b (s.syncedForDelete.delLoop a (b - a)).2 (s.deleteRange a b) :=
  deleteSynced_spec (good_syncedForDelete s hg).1 hk

/-- every range the validation does not accept is rejected with an error and no effect (beyond draining the write
    queue, which `DeleteRange` always does first) -/
theorem deleteRange_of_none {s : St} {a b : Nat} (hk : s.syncedForDelete.delKind a b = none) :
    s.deleteRange a b = (s.syncedForDelete, .err) := deleteSynced_of_none hk

theorem delKind_of_ok {s : St} {a b : Nat} (hok : (s.deleteRange a b).2 = .ok) :
    ∃ k, s.syncedForDelete.delKind a b = some k := by
  cases hk : s.syncedForDelete.delKind a b with
  | none => rw [deleteRange_of_none hk] at hok; cases hok
  | some k => exact ⟨k, rfl⟩

/-- `DeleteRange(a, b)` on a good store, accepted or not: the store stays good, the write queue has been drained, and of what
    was stored after that some `[a, stop)` with `stop ≤ b` is gone (nothing, when the range is rejected) -/
theorem deleteRange_any (s : St) (hg : Good s) (a b : Nat) :
    Good (s.deleteRange a b).1 ∧ (s.deleteRange a b).1.queue = [] ∧
    ∃ stop, stop ≤ b ∧ ∀ h, (s.deleteRange a b).1.present h ↔ s.syncedForDelete.present h ∧ ¬ (a ≤ h ∧ h < stop) := by
  have hs := good_syncedForDelete s hg
  unfold St.deleteRange
  cases hk : s.syncedForDelete.delKind a b with
  | none =>
    rw [deleteSynced_of_none hk]
    exact ⟨hs, queue_sync s, 0, Nat.zero_le _, fun h => ⟨fun x => ⟨x, nofun⟩, (·.1)⟩⟩
  | some k =>
    have d := deleteSynced_spec hs.1 hk
    exact ⟨d.good, d.queue.trans (queue_sync s), _, d.stop_le, d.present⟩

theorem good_deleteRange (s : St) (a b : Nat) (h : Good s) : Good (s.deleteRange a b).1 := (deleteRange_any s h a b).1

theorem queue_deleteRange (s : St) (a b : Nat) (h : Good s) : (s.deleteRange a b).1.queue = [] := (deleteRange_any s h a b).2.1

/-! ### Stop / Start -/

theorem good_flushStop (s : St) (h : Good s) : Good s.flushStop :=
  ⟨inv_commit _ (inv_advance_recede_of_inv s h.1), noPtr_commit _ (noPtr_advance_recede s h.2)⟩

theorem present_flushStop (s : St) (k : Nat) : s.flushStop.present k ↔ s.present k :=
  (present_commit ..).trans (present_advance_recede s k)

/-- a commit persists the ends that are set, and no pointer exists without its end: afterwards the pointers ARE the ends -/
theorem commit_ptrs (u : St) (h : NoPtr u) : u.commit.headPtr = u.commit.head ∧ u.commit.tailPtr = u.commit.tail := by
  unfold St.commit
  constructor
  · cases hh : u.head with
    | none => exact h.1 hh
    | some hd => rfl
  · cases ht : u.tail with
    | none => exact h.2 ht
    | some tl => rfl

/-- `readByKey`: a pointer survives exactly when its header is there -/
theorem resolvePtr_some {ptr : Option Nat} {hdr : HSet} {h : Nat} :
    resolvePtr ptr hdr = some h ↔ ptr = some h ∧ h ∈ hdr := by
  cases ptr with
  | none => exact ⟨nofun, nofun⟩
  | some x =>
    by_cases hx : x ∈ hdr
    · simp only [resolvePtr, if_pos hx, Option.some.injEq]; exact ⟨fun e => ⟨e, e ▸ hx⟩, (·.1)⟩
    · simp only [resolvePtr, if_neg hx, Option.some.injEq]; exact ⟨nofun, fun e => absurd (e.1 ▸ e.2) hx⟩

/-- C06 (clean restart), state level: a store whose pointers are current and whose write batch is empty is reopened as it
    was; only `Height()` of an empty store, the write queue and the call log start afresh -/
theorem reopen_eq {u : St} (hi : Inv u) (hp : u.pending = []) (e1 : u.headPtr = u.head) (e2 : u.tailPtr = u.tail) :
    u.reopen = { u with hs := u.head.getD 0, queue := [], calls := [] } := by
  -- both ends are stored, with an empty write batch that is in the datastore: the pointers resolve
  have res : ∀ p : Option Nat, (∀ x, p = some x → u.present x) → resolvePtr p u.hdr = p
    | none, _ => rfl
    | some x, h => resolvePtr_some.mpr ⟨rfl, (h x rfl).elim (fun hx => by rw [hp] at hx; cases hx) (·.2)⟩
  simp only [St.reopen, e1, e2, res _ fun _ => hi.present_head, res _ fun _ => hi.present_tail, hp]
  cases u.head <;> rfl

theorem restart_eq (s : St) (h : Good s) :
    s.restart = { s.sync.flushStop with hs := s.sync.flushStop.head.getD 0, queue := [], calls := [] } :=
  have hg := good_flushStop _ (good_sync s h)
  have hp := commit_ptrs _ (noPtr_advance_recede _ (good_sync s h).2)
  reopen_eq hg.1 rfl hp.1 hp.2

/-- writing `Height()` anew as `reopen` does changes nothing: with a head set it was the head already -/
theorem good_reopened {u : St} (hg : Good u) : Good { u with hs := u.head.getD 0, queue := [], calls := [] } :=
  ⟨⟨hg.1.1, hg.1.2.1, fun hd tl eh et =>
    have ⟨a, b, c, _⟩ := hg.1.2.2 hd tl eh et
    ⟨a, b, c, congrArg (·.getD 0) eh⟩⟩, hg.2⟩

theorem good_restart (s : St) (h : Good s) : Good s.restart :=
  restart_eq s h ▸ good_reopened (good_flushStop _ (good_sync s h))

/-- restart neither loses nor invents headers: the final flush empties the write batch, the datastore is kept -/
theorem present_restart (s : St) (k : Nat) : s.restart.present k ↔ s.mentions k :=
  (present_flushStop s.sync k).trans (present_sync s k)

/-! ### every reachable state is `Good` -/

theorem good_step (s : St) (op : Op) (h : Good s) : Good (s.step op) := by
  cases op with
  | append hs => simp only [St.step]; split <;> exact h
  | sync => exact good_sync s h
  | delete a b => exact good_deleteRange s a b h
  | restart => exact good_restart s h
  | onDelete f => exact h

theorem good_run (batch : Nat) (ops : List Op) : Good (St.run batch ops) :=
  List.foldlRecOn ops St.step ⟨⟨Iff.rfl, fun _ => Iff.rfl, nofun⟩, fun _ => rfl, fun _ => rfl⟩
    fun s h op _ => good_step s op h

/-! ### what the store mentions: exact effect of every operation -/

theorem mentions_of_queue_nil {s : St} (hq : s.queue = []) (k : Nat) : s.mentions k ↔ s.present k := by
  simp only [St.mentions, hq, List.not_mem_nil, false_and, exists_false, or_false]

theorem mentions_append (s : St) (hs : List Nat) (k : Nat) :
    (s.step (.append hs)).mentions k ↔ s.mentions k ∨ k ∈ hs := by
  cases hs with
  | nil => exact ⟨Or.inl, (·.elim id nofun)⟩
  | cons x xs =>
    simp only [St.step, List.isEmpty_cons, Bool.false_eq_true, if_false, St.mentions, St.present, List.mem_append,
      List.mem_singleton, or_and_right, exists_or, exists_eq_left, or_assoc]

theorem mentions_sync (s : St) (k : Nat) : s.sync.mentions k ↔ s.mentions k :=
  (mentions_of_queue_nil (queue_sync s) k).trans (present_sync s k)

/-- `DeleteRange(a, b)` removes some `[a, stop)` with `stop ≤ b` (nothing, when it rejects the range) -/
theorem mentions_deleteRange (s : St) (hg : Good s) (a b : Nat) :
    ∃ stop, stop ≤ b ∧ ∀ k, (s.deleteRange a b).1.mentions k ↔ s.mentions k ∧ ¬ (a ≤ k ∧ k < stop) := by
  obtain ⟨-, hq, stop, hle, hp⟩ := deleteRange_any s hg a b
  exact ⟨stop, hle, fun k => (mentions_of_queue_nil hq k).trans
    ((hp k).trans (and_congr_left' (present_syncedForDelete s k)))⟩

theorem mentions_restart (s : St) (k : Nat) : s.restart.mentions k ↔ s.mentions k :=
  (mentions_of_queue_nil rfl k).trans (present_restart s k)

/-- the only operation that adds headers is an `Append` of them -/
theorem mentions_step (s : St) (hg : Good s) (op : Op) (k : Nat) (hm : (s.step op).mentions k) :
    s.mentions k ∨ ∃ hs, op = .append hs ∧ k ∈ hs := by
  cases op with
  | append hs => exact ((mentions_append s hs k).mp hm).imp id fun h => ⟨hs, rfl, h⟩
  | sync => exact Or.inl ((mentions_sync s k).mp hm)
  | delete a b => obtain ⟨_, _, hp⟩ := mentions_deleteRange s hg a b; exact Or.inl ((hp k).mp hm).1
  | restart => exact Or.inl ((mentions_restart s k).mp hm)
  | onDelete f => exact Or.inl hm

end GoHeader.Store
