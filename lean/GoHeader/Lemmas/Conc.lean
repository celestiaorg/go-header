/-
  Lemmas.Conc — invariants of the hook-granular reader × flusher system (`Store.Conc`).
-/
import GoHeader.Store.Conc
namespace GoHeader.Conc

/-- the flusher still owes a Notify for height `h` -/
def OwesNotify (s : St) (h : Nat) : Prop :=
  match s.fpc with
  | .appended b => h ∈ b
  | .inited b => h ∈ b
  | _ => False

/-- the batch the flusher is working on is already retrievable -/
def BatchStored (s : St) : Prop :=
  match s.fpc with
  | .appended b | .inited b | .notified b | .headStored b _ | .heightSet b => ∀ h ∈ b, h ∈ s.stored
  | .idle => True

/-- the invariant: a parked reader's height is not stored unless its wake-up is still owed;
    the published head is retrievable; a reader that returned `found` was right -/
structure Inv (s : St) : Prop where
  parked : ∀ r ∈ s.readers, r.pc = .parked → (r.h ∉ s.stored ∨ OwesNotify s r.h)
  batch : BatchStored s
  headStored : ∀ hd, s.head = some hd → hd ∈ s.stored
  found : ∀ r ∈ s.readers, r.pc = .done .found → r.h ∈ s.stored

theorem mem_wake {p : Nat → Bool} {rs : List Reader} {r : Reader} (h : r ∈ wake p rs) (hw : r.pc ≠ .woken) :
    r ∈ rs ∧ (r.pc = .parked → p r.h = false) := by
  obtain ⟨r0, hr0, e⟩ := List.mem_map.mp h
  split at e <;> subst e
  · exact absurd rfl hw
  · next hc => exact ⟨hr0, fun hp => by simpa [hp] using hc⟩

theorem walkUp_spec (p : Nat → Bool) (f h : Nat) :
    h ≤ walkUp p f h ∧ (walkUp p f h = h ∨ p (walkUp p f h) = true) := by
  induction f generalizing h with
  | zero => exact ⟨Nat.le_refl h, Or.inl rfl⟩
  | succ n ih =>
    unfold walkUp; split
    · next hp => exact ⟨Nat.le_of_succ_le (ih _).1, Or.inr ((ih _).2.elim (fun e => e ▸ hp) id)⟩
    · exact ⟨Nat.le_refl h, Or.inl rfl⟩

theorem getD_ind {α} {P : α → Prop} {o : Option α} {a : α} (h0 : P a) (h1 : ∀ b, o = some b → P b) : P (o.getD a) := by
  cases o with
  | none => exact h0
  | some b => exact h1 b rfl

theorem inv_init : Inv ({} : St) :=
  ⟨by simp, trivial, by simp, by simp⟩

theorem Inv.readers {s : St} (hi : Inv s) {q : List (List Nat)} {rs : List Reader}
    (h : ∀ r ∈ rs, r ∈ s.readers ∨ ((r.pc = .parked → r.h ∉ s.stored) ∧ (r.pc = .done .found → r.h ∈ s.stored))) :
    Inv { s with queue := q, readers := rs } :=
  { hi with
    parked := fun r hr hp => (h r hr).elim (fun h1 => hi.parked r h1 hp) fun h1 => Or.inl (h1.1 hp)
    found := fun r hr hp => (h r hr).elim (fun h1 => hi.found r h1 hp) fun h1 => h1.2 hp }

theorem Inv.wake {s : St} (hi : Inv s) (p : Nat → Bool) : Inv { s with readers := wake p s.readers } :=
  hi.readers fun r hr =>
    if hw : r.pc = .woken then Or.inr ⟨by simp [hw], by simp [hw]⟩ else Or.inl (mem_wake hr hw).1

theorem stepR_eq {s s' : St} {i : Nat} {c : Bool} (h : stepR s i c = some s') :
    ∃ r pc, s.readers[i]? = some r ∧ s' = { s with readers := s.readers.set i { r with pc := pc } } ∧
      (pc = .parked → r.h ∉ s.stored) ∧ (pc = .done .found → r.h ∈ s.stored) := by
  revert h
  fun_cases stepR s i c <;> intro h <;> cases h <;> refine ⟨_, _, ‹_›, rfl, ?_, ?_⟩
  -- R1 .. R6, two implications each. Once the guard of the segment is split (R5 has none) `pc` is a constructor: the
  -- implication is vacuous, or what it concludes is that guard
  all_goals intro e; (try split at e) <;> cases e <;> next guard => simpa using guard

theorem inv_stepR {s s' : St} {i : Nat} {c : Bool} (hi : Inv s) (h : stepR s i c = some s') : Inv s' := by
  obtain ⟨r, pc, hr, rfl, hp, hf⟩ := stepR_eq h
  refine hi.readers fun r' hr' => ?_
  rcases List.mem_or_eq_of_mem_set hr' with h1 | rfl
  · exact Or.inl h1
  · exact Or.inr ⟨hp, hf⟩

theorem inv_stepF {s s' : St} (hi : Inv s) (h : stepF s = some s') : Inv s' := by
  -- on a state given by its fields `stepF`, `OwesNotify`, `BatchStored` compute, so `{ hi with … }` hands on every clause
  -- that the segment leaves alone
  obtain ⟨st, hd, hs, q, f, rs⟩ := s
  cases f with
  | idle =>
    -- F1: the batch becomes retrievable and its Notify owed in the same step
    cases q with
    | nil => cases h
    | cons b q =>
      cases h
      exact {
        parked := fun r hr hp => (hi.parked r hr hp).elim
          (fun h1 => if hb : r.h ∈ b then Or.inr hb else Or.inl fun h2 => (List.mem_append.mp h2).elim hb h1) False.elim
        batch := fun _ => List.mem_append_left _
        headStored := fun x e => List.mem_append_right _ (hi.headStored x e)
        found := fun r hr hp => List.mem_append_right _ (hi.found r hr hp) }
  | appended b =>
    cases hd with
    | none =>
      cases b with
      | nil => cases h; exact { hi with }
      | cons x xs =>
        -- F2, no head yet: Head := first of the batch, retrievable since F1
        cases h
        exact { hi.wake (· < x) with headStored := fun _ e => Option.some.inj e ▸ hi.batch x (List.mem_cons_self ..) }
    | some hd => cases h; exact { hi with }
  | inited b =>
    -- F3 pays the debt: whoever stays parked is not waiting for a height of the batch
    cases h
    exact { hi.wake _ with
      parked := fun r hr hp =>
        have ⟨hr0, hnp⟩ := mem_wake hr (by simp [hp])
        Or.inl ((hi.parked r hr0 hp).resolve_right fun (ho : r.h ∈ b) => by simp [ho, hp] at hnp) }
  | notified b =>
    cases hd with
    | none => cases h; exact { hi with }
    | some hd =>
      -- F4: Head stays or moves to a height the walk found stored
      cases h
      refine { hi with headStored := fun x e => ?_ }
      cases e
      rcases (walkUp_spec (fun h => st.contains h) (st.length + 1) hd).2 with w | w
      · rw [w]; exact hi.headStored hd rfl
      · simpa using w
  | headStored b old =>
    cases hd with
    | none => cases h; exact { hi with }
    | some hd =>
      simp only [stepF] at h
      split at h <;> cases h
      · exact { hi.wake _ with }
      · exact { hi with }
  | heightSet b => cases h; exact { hi with batch := trivial }

theorem inv_step {s : St} (hi : Inv s) : ∀ e, Inv (step s e)
  | .flusher => getD_ind hi fun _ => inv_stepF hi
  | .reader _ | .cancel _ => getD_ind hi fun _ => inv_stepR hi
  | .append _ => iteInduction (motive := Inv) (fun _ => hi) fun _ => hi.readers fun _ => Or.inl
  | .call h => hi.readers fun r hr => (List.mem_append.mp hr).imp_right fun e => by
    cases List.mem_singleton.mp e; exact ⟨nofun, nofun⟩

theorem inv_run (evs : List Ev) : Inv (run evs) :=
  List.foldlRecOn evs step inv_init fun _ hs e _ => inv_step hs e

end GoHeader.Conc
