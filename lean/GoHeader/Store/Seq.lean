/-
  GoHeader.Store.Seq — sequential model of /repo/store (store.go, batch.go, heightsub.go,
  height_indexer.go, store_delete.go) over the headers of ONE chain, identified by their height.

  What is modelled (and where in the Go code):
    * the datastore: hash keys `hdr`, height-index keys `idx`, the two pointer keys        (keys.go)
    * the write batch `pending`, the in-memory ends `head` / `tail`, `heightSub.height`     (store.go)
    * the flush closure of `flushLoop`: pending.Append → ensureInit → advanceHead →
      recedeTail → commit when the batch is full or the store stops                          (store.go)
    * `getByHeight` with the code's lookup order: head, tail, pending, index → Get(hash)   (store.go)
    * `GetByHeight` = lookup, else park on heightSub unless the height has elapsed         (store.go, heightsub.go)
    * `DeleteRange`: Sync, validation, `deleteSingle` per height incl. OnDelete handlers,
      `setTail` / `setHead` / `wipe`                                                       (store_delete.go)
    * Stop (drain queue, flush, deinit) and Start on the same datastore (`init`, `readByKey`).
  What is NOT modelled: the two 2Q caches (cache-transparent: every cached entry equals what
  pending ∪ datastore hold — a stale entry would show up as a correspondence break), metrics,
  logging, the parallel delete path (≥ 10 000 headers), datastore write faults (Store.Crash).
-/
import GoHeader.Prelude
namespace GoHeader.Store

abbrev HSet := List Nat

def HSet.ins (s : HSet) (x : Nat) : HSet := if x ∈ s then s else x :: s
def HSet.del (s : HSet) (x : Nat) : HSet := s.filter (· != x)
def HSet.union (s t : HSet) : HSet := t.foldl HSet.ins s

@[simp] theorem mem_ins (s : HSet) (x y : Nat) : y ∈ HSet.ins s x ↔ y = x ∨ y ∈ s := by
  unfold HSet.ins; split
  · exact ⟨Or.inr, fun h => h.elim (· ▸ ‹_›) id⟩
  · exact List.mem_cons
@[simp] theorem mem_del (s : HSet) (x y : Nat) : y ∈ HSet.del s x ↔ y ∈ s ∧ y ≠ x := by
  simp [HSet.del]
@[simp] theorem mem_union (s t : HSet) (y : Nat) : y ∈ HSet.union s t ↔ y ∈ s ∨ y ∈ t := by
  unfold HSet.union
  induction t generalizing s with
  | nil => simp
  | cons a as ih => simp only [List.foldl_cons, ih, mem_ins, List.mem_cons, or_assoc, or_left_comm]

/-- an OnDelete handler script: the call indexes (0-based, per handler) at which it fails -/
structure Handler where
  fails : List Nat
  count : Nat := 0
deriving Repr, DecidableEq

/-- one handler invocation as the harness logs it -/
structure Call where
  handler  : Nat
  height   : Nat
  readable : Bool
deriving Repr, DecidableEq

structure St where
  batch   : Nat                  -- Params.WriteBatchSize
  hdr     : HSet := []           -- datastore: hash keys
  idx     : HSet := []           -- datastore: height keys
  headPtr : Option Nat := none   -- datastore: "head" key
  tailPtr : Option Nat := none   -- datastore: "tail" key
  pending : HSet := []
  head    : Option Nat := none   -- contiguousHead
  tail    : Option Nat := none   -- tailHeader
  hs      : Nat := 0             -- heightSub.height
  queue   : List (List Nat) := [] -- writes channel (oldest first)
  handlers : List Handler := []
  calls   : List Call := []      -- log of the current DeleteRange
deriving Repr

/-! ### reads -/

def St.present (s : St) (h : Nat) : Prop := h ∈ s.pending ∨ (h ∈ s.idx ∧ h ∈ s.hdr)
instance (s : St) (h : Nat) : Decidable (s.present h) := by unfold St.present; infer_instance

/-- `Store.Get(hash of h)` / `Has`: cache (transparent), pending, datastore -/
def St.byHash (s : St) (h : Nat) : Bool := decide (h ∈ s.pending) || decide (h ∈ s.hdr)

/-- `getByHeight`: head, tail, pending, then index → Get -/
def St.lookup (s : St) (h : Nat) : Bool :=
  s.head == some h || s.tail == some h || decide (h ∈ s.pending) ||
    (decide (h ∈ s.idx) && s.byHash h)

inductive ByH | found | notFound | blocks | err
deriving DecidableEq, Repr

/-- `GetByHeight` -/
def St.getByHeight (s : St) (h : Nat) : ByH :=
  if h = 0 then .err
  else if s.lookup h then .found
  else if s.hs ≥ h then .notFound       -- errElapsedHeight, second lookup misses too
  else .blocks                           -- parks on heightSub until the context ends

def St.hasAt (s : St) (h : Nat) : Bool :=
  match s.head, s.tail with
  | some hd, some tl => h != 0 && decide (tl ≤ h) && decide (h ≤ hd)
  | _, _ => false

/-- `GetRange(a, b)`: GetByHeight(b-1), then walk back by previous-hash through `Get` -/
def St.getRange (s : St) (a b : Nat) : Bool :=
  decide (a < b) && (s.getByHeight (b - 1) == .found) &&
    (List.range' a (b - 1 - a)).all (fun h => h != 0 && s.byHash h)

/-! ### the flush closure -/

def walkUp (p : Nat → Bool) : Nat → Nat → Nat
  | 0, h => h
  | f+1, h => if p (h+1) then walkUp p f (h+1) else h

def walkDown (p : Nat → Bool) : Nat → Nat → Nat
  | 0, h => h
  | f+1, h => if h = 0 then h else if p (h-1) then walkDown p f (h-1) else h

def maxOf : List Nat → Nat
  | [] => 0
  | x :: xs => max x (maxOf xs)

def St.bound (s : St) : Nat := max (maxOf s.pending) (maxOf s.idx)

/-- `ensureInit` for a batch whose first header is `x` -/
def St.ensureInit (s : St) (x : Nat) : St :=
  let s1 : St := match s.head with
    | none => { s with head := some x, hs := x }
    | some _ => s
  match s1.tail with
    | none => { s1 with tail := some x }
    | some _ => s1

def St.advance (s : St) : St :=
  match s.head with
  | some hd =>
    let nh := walkUp s.lookup (s.bound + 1) hd
    -- `SetHeight` is only called when the head changed, and never lowers the height
    { s with head := some nh, hs := if nh = hd then s.hs else max s.hs nh }
  | none => s

def St.recede (s : St) : St :=
  match s.tail with
  | some tl => { s with tail := some (walkDown s.lookup tl tl) }
  | none => s

/-- `Store.flush` + `pending.Reset`: headers, index and the pointers that are set, one batch -/
def St.commit (s : St) : St :=
  { s with hdr := HSet.union s.hdr s.pending, idx := HSet.union s.idx s.pending,
           headPtr := match s.head with | some h => some h | none => s.headPtr,
           tailPtr := match s.tail with | some t => some t | none => s.tailPtr,
           pending := [] }

/-- the flush closure for one queued batch (non-empty) -/
def St.flushBatch (s : St) (hs : List Nat) : St :=
  match hs with
  | [] => s
  | x :: _ =>
    let s1 := { s with pending := HSet.union s.pending hs }
    let s5 := ((s1.ensureInit x).advance).recede
    if s5.pending.length ≥ s5.batch then s5.commit else s5

/-- `Sync`: the flush loop drains the queue -/
def St.sync (s : St) : St :=
  s.queue.foldl St.flushBatch { s with queue := [] }

/-- the stop signal (`headers == nil`): advance/recede once more, then flush whatever is pending -/
def St.flushStop (s : St) : St := (s.advance.recede).commit

/-! ### Stop / Start -/

/-- `readByKey`: a pointer whose header is missing is dropped -/
def resolvePtr (ptr : Option Nat) (hdr : HSet) : Option Nat :=
  match ptr with
  | some h => if h ∈ hdr then some h else none
  | none => none

/-- a fresh `Store` started on the datastore of `s1` (`init` + `readByKey`) -/
def St.reopen (s1 : St) : St :=
  { batch := s1.batch, hdr := s1.hdr, idx := s1.idx,
    headPtr := resolvePtr s1.headPtr s1.hdr, tailPtr := resolvePtr s1.tailPtr s1.hdr,
    pending := [], head := resolvePtr s1.headPtr s1.hdr, tail := resolvePtr s1.tailPtr s1.hdr,
    hs := (match resolvePtr s1.headPtr s1.hdr with | some h => h | none => 0),
    queue := [], handlers := s1.handlers, calls := [] }

/-- `Stop` (drain the queue, final flush) then a fresh `Store` started on the same datastore -/
def St.restart (s : St) : St := s.sync.flushStop.reopen

/-! ### DeleteRange -/

inductive Kind | wipe | tailSide | headSide
deriving DecidableEq, Repr

/-- the validation part of `DeleteRange` (after Sync) -/
def St.delKind (s : St) (a b : Nat) : Option Kind :=
  match s.head, s.tail with
  | some hd, some tl =>
    if a ≥ b then none
    else if a > hd ∨ b ≤ tl then none
    else if a = tl ∧ b = hd + 1 then (if s.lookup b then some .tailSide else some .wipe)
    else if a = tl then (if b > hd + 1 then none else some .tailSide)
    else if b = hd + 1 then (if a < tl then none else some .headSide)
    else none
  | _, _ => none

def St.delOne (s : St) (h : Nat) : St :=
  { s with hdr := HSet.del s.hdr h, idx := HSet.del s.idx h, pending := HSet.del s.pending h }

/-- run the OnDelete handlers for height `h` in registration order; `true` = all returned nil -/
def runHandlers (s : St) (h : Nat) : List Handler → Nat → List Handler × List Call × Bool
  | [], _ => ([], [], true)
  | hd :: rest, i =>
    let call : Call := { handler := i, height := h, readable := s.getByHeight h == .found }
    let hd' := { hd with count := hd.count + 1 }
    if hd.count ∈ hd.fails then (hd' :: rest, [call], false)
    else
      let r := runHandlers s h rest (i + 1)
      (hd' :: r.1, call :: r.2.1, r.2.2)

/-- the state after the handlers ran for height `a` (only their counters and the call log change) -/
def St.afterHandlers (s : St) (a : Nat) : St :=
  { s with handlers := (runHandlers s a s.handlers 0).1, calls := s.calls ++ (runHandlers s a s.handlers 0).2.1 }

/-- did every handler return nil for height `a`? -/
def St.handlersOk (s : St) (a : Nat) : Bool := (runHandlers s a s.handlers 0).2.2

/-- `deleteSequential` from `a`, `n` heights: returns the state and the height that failed, if any -/
def St.delLoop (s : St) (a : Nat) : Nat → St × Option Nat
  | 0 => (s, none)
  | n+1 =>
    if a ∈ s.idx ∨ a ∈ s.pending then
      if s.handlersOk a then ((s.afterHandlers a).delOne a).delLoop (a+1) n
      else (s.afterHandlers a, some a)
    else s.delLoop (a+1) n        -- "attempt to delete header that's not found": skipped

/-- `head.IsZero() || to > head.Height()` in `setTail` -/
def St.tailOver (s : St) (to : Nat) : Bool :=
  match s.head with
  | none => true
  | some hd => decide (to > hd)

/-- `setTail(to)`: the head follows when the new tail lies above it (or the head is unset) -/
def St.setTail (s : St) (to : Nat) : St × Bool :=
  if !s.lookup to then (s, false) else
  if s.tailOver to then
    (({ s with tail := some to, tailPtr := some to, head := some to, headPtr := some to } : St).advance, true)
  else ({ s with tail := some to, tailPtr := some to }, true)

/-- `setHead(to)` -/
def St.setHead (s : St) (to : Nat) : St × Bool :=
  if !s.lookup to then (s, false) else
  ({ s with head := some to, headPtr := some to, hs := to }, true)

inductive DelRes | ok | err
deriving DecidableEq, Repr

/-- `DeleteRange` first waits for the write queue to drain (`Sync`) -/
def St.syncedForDelete (s0 : St) : St := { s0.sync with calls := [] }

/-- the pointer update at the end of `DeleteRange`, by kind and by the height that failed (if any) -/
def St.finishDelete (s1 : St) (k : Kind) (a b : Nat) (fail : Option Nat) : St × DelRes :=
  match k, fail with
  | .wipe, none => ({ s1 with head := none, tail := none, headPtr := none, tailPtr := none }, .ok)
  | .wipe, some h => ((s1.setTail h).1, .err)
  | .tailSide, none => ((s1.setTail b).1, if (s1.setTail b).2 then .ok else .err)
  | .tailSide, some h => ((s1.setTail h).1, .err)
  | .headSide, none =>
    if b > a then ((s1.setHead (a - 1)).1, if (s1.setHead (a - 1)).2 then .ok else .err) else (s1, .ok)
  | .headSide, some h => if h > a then ((s1.setHead (a - 1)).1, .err) else (s1, .err)

/-- `DeleteRange(a, b)` on a drained store -/
def St.deleteSynced (s : St) (a b : Nat) : St × DelRes :=
  match s.delKind a b with
  | none => (s, .err)
  | some k => (s.delLoop a (b - a)).1.finishDelete k a b (s.delLoop a (b - a)).2

/-- `DeleteRange(a, b)` -/
def St.deleteRange (s0 : St) (a b : Nat) : St × DelRes := s0.syncedForDelete.deleteSynced a b

/-! ### operations -/

inductive Op
  | append (hs : List Nat)
  | sync
  | delete (a b : Nat)
  | restart
  | onDelete (fails : List Nat)
deriving Repr

def St.step (s : St) : Op → St
  | .append hs => if hs.isEmpty then s else { s with queue := s.queue ++ [hs] }
  | .sync => s.sync
  | .delete a b => (s.deleteRange a b).1
  | .restart => s.restart
  | .onDelete f => { s with handlers := s.handlers ++ [{ fails := f }] }

def St.init (batch : Nat) : St := { batch := batch }

def St.run (batch : Nat) (ops : List Op) : St := ops.foldl St.step (St.init batch)

end GoHeader.Store
