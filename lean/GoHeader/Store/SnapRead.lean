/-
  What an OnDelete handler can read while a DeleteRange runs on a context-aware datastore (finding F34).

  The deletion opens ONE read transaction when it starts: a snapshot of the datastore. Headers of the range may still be
  in the pending write batch at that moment. While the deletion runs, the flush loop may write the pending batch out
  (and empty it). A look-up goes: pending batch first, then the datastore - through the snapshot, or as it is now.
  `OnDelete` promises the handler that GetByHeight still finds the header.
-/
namespace GoHeader.SnapRead

structure St where
  disk    : List Nat   -- heights in the datastore now
  pending : List Nat   -- heights in the pending write batch
  snap    : List Nat   -- the datastore as the deletion's read transaction sees it
deriving DecidableEq, Repr

inductive Op
  | flush            -- the flush loop writes the pending batch out
  | append (h : Nat) -- a new header enters the pending batch
  | delete (h : Nat) -- the deleter removes h (buffered in its write batch: the datastore still has it until the commit)
deriving DecidableEq, Repr

def step (s : St) : Op → St
  | .flush => { s with disk := s.disk ++ s.pending, pending := [] }
  | .append h => { s with pending := s.pending ++ [h] }
  | .delete h => { s with pending := s.pending.filter (· != h) }

def run (s : St) (ops : List Op) : St := ops.foldl step s

/-- the deletion starts: its read transaction is a snapshot of the datastore -/
def openTxn (disk pending : List Nat) : St := { disk := disk, pending := pending, snap := disk }

/-- GetByHeight as the handler performs it; `current` = reads bypass the deletion's read transaction (the F34 repair) -/
def handlerFinds (current : Bool) (s : St) (h : Nat) : Bool :=
  s.pending.contains h || (if current then s.disk.contains h else s.snap.contains h)

/-- stored somewhere (and not yet handed to `delete`) -/
def Stored (s : St) (h : Nat) : Prop := h ∈ s.disk ∨ h ∈ s.pending

theorem step_keeps (s : St) (o : Op) (h : Nat) (hs : Stored s h) (hd : o ≠ .delete h) : Stored (step s o) h := by
  unfold Stored at *
  cases o with
  | flush => simpa only [step, List.mem_append, List.not_mem_nil, or_false] using hs
  | append k => simp only [step, List.mem_append, List.mem_singleton]; exact hs.imp id Or.inl
  | delete k =>
    simp only [step, List.mem_filter, bne_iff_ne]
    exact hs.imp id fun x => ⟨x, fun e => hd (e ▸ rfl)⟩

example : handlerFinds true (run (openTxn [1] [2, 3]) [.delete 1, .append 4, .flush]) 2 = true := by decide

end GoHeader.SnapRead
