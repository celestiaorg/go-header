/-
  `store/heightsub.go` at the granularity of whole calls: the published height and the set of heights that have
  registered waiters. (The interleavings of ONE reader with the flusher inside a call are `Store.Conc`'s business; this
  model covers what `Store.Conc` starts after: a store that has NO head yet - fresh, or emptied by a whole-chain
  DeleteRange - and receives its first batch.)
-/
namespace GoHeader.HeightSub

structure St where
  height : Nat := 0
  subs   : List Nat := []     -- heights with parked waiters
deriving DecidableEq, Repr

/-- `Init(h)`: publish h and release every waiter STRICTLY below it -/
def init (s : St) (h : Nat) : St := { height := h, subs := s.subs.filter (fun x => h ≤ x) }

/-- `Notify(hs…)`: release the waiters of exactly these heights; the published height is untouched -/
def notify (s : St) (hs : List Nat) : St := { s with subs := s.subs.filter (fun x => !hs.contains x) }

/-- `SetHeight(h)`: only ever raises; releases the waiters from the old height up to h -/
def setHeight (s : St) (h : Nat) : St :=
  if s.height ≥ h then s else { height := h, subs := s.subs.filter (fun x => !(decide (s.height ≤ x) && decide (x ≤ h))) }

/-- a reader registers for h: refused ("elapsed") when h is published already -/
def register (s : St) (h : Nat) : St × Bool :=
  if s.height ≥ h then (s, false) else ({ s with subs := s.subs ++ [h] }, true)

/-- what the Store does with its FIRST batch a..b (`ensureInit` → Init(a); the flush → Notify(a..b); `advanceHead` →
    SetHeight(b)) -/
def firstBatch (s : St) (a b : Nat) : St := setHeight (notify (init s a) (List.range' a (b + 1 - a))) b

theorem mem_filter_of {p : Nat → Bool} {l : List Nat} {x : Nat} (h : x ∈ l.filter p) : x ∈ l ∧ p x = true :=
  List.mem_filter.mp h

theorem subs_setHeight {s : St} {h x : Nat} (hx : x ∈ (setHeight s h).subs) : x ∈ s.subs := by
  unfold setHeight at hx
  split at hx
  · exact hx
  · exact (mem_filter_of hx).1

theorem le_height_setHeight (s : St) (h : Nat) : h ≤ (setHeight s h).height := by
  unfold setHeight
  split
  · assumption
  · exact Nat.le_refl h

/-- a waiter parked on the first height itself (Init releases only those strictly below): released by the Notify -/
example : (firstBatch { height := 0, subs := [5, 9] } 5 5).subs = [9] := by decide

end GoHeader.HeightSub
