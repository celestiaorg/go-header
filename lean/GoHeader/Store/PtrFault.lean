/-
  A refused write of the tail pointer inside a tail-side DeleteRange, followed by a clean Stop / Start (C06).

  `setTail` publishes the new tail in memory FIRST and then writes the pointer key; `Stop` ends with a flush that writes
  both pointers from memory (F17); `Start` drops a pointer that names a header which is not stored. With that order a
  refused pointer write is healed by the final flush. (The seeded `settail-publish-after-persist` swaps the order: the
  in-memory tail then keeps naming the header that was just deleted.)
-/
namespace GoHeader.PtrFault

structure St where
  stored   : List Nat            -- heights in the datastore
  memTail  : Option Nat          -- Tail() of the running store
  diskTail : Option Nat          -- the persisted tail pointer
deriving DecidableEq, Repr

/-- tail-side DeleteRange(tail, to): the headers go, then `setTail(to)`; `fault` = the datastore refuses the pointer write;
    `publishFirst` = the code's order (memory, then disk) -/
def deleteTail (publishFirst : Bool) (s : St) (to : Nat) (fault : Bool) : St :=
  let stored := s.stored.filter (fun h => to ≤ h)
  if fault then
    { stored := stored, memTail := if publishFirst then some to else s.memTail, diskTail := s.diskTail }
  else
    { stored := stored, memTail := some to, diskTail := some to }

/-- clean Stop: the final flush persists the pointers from memory -/
def stop (s : St) : St := { s with diskTail := s.memTail }

/-- Start on the surviving data: a pointer to a header that is not stored is dropped -/
def reopen (s : St) : St :=
  let t := match s.diskTail with
    | some h => if s.stored.contains h then some h else none
    | none => none
  { s with memTail := t, diskTail := t }

/-- the Tail the running store reports resolves to a stored header -/
def TailResolves (s : St) : Prop := ∀ h, s.memTail = some h → h ∈ s.stored

/-- the other order: after the refused write the running store reports a Tail that is gone, and loses it on restart -/
theorem persist_first_counterexample :
    let s : St := { stored := [1, 2, 3, 4, 5], memTail := some 1, diskTail := some 1 }
    (deleteTail false s 3 true).memTail = some 1 ∧ 1 ∉ (deleteTail false s 3 true).stored ∧
    (reopen (stop (deleteTail false s 3 true))).memTail = none := by decide

end GoHeader.PtrFault
